/-
C14 — resource limits are hard bounds and hitting one is recoverable.

Model: Model/VM.lean. `meterIncrease` is the first thing `step` (= fetch_and_run) does; `pushData`
checks the stack limit before every push; `allocHeap` checks the heap limit before every
allocation. The theorems hold for every word table `np` (native words are arbitrary programs over
the interpreter's primitives), every opcode, every machine and every number of steps — including steps that fail midway. Where a theorem
asks for the structural invariant `WF`, only `insn_count_bound` needs it (a successful step counts): the bounds
themselves hold of every machine (Proofs/VMMeter.lean, VMBound.lean).

Whole sources (section Sources): `source_counts_against_the_limit`, `history_counts_against_the_limit` — over any
history of sources on the session model (Model/Session.lean), built, rejected and unwound, or failed at run time, with
everything their meta blocks execute while they are being built, the meter never goes down and never passes the limit;
these need no well-formedness hypothesis (Proofs/VMMeter.lean, SessionMeter.lean).
`source_respects_stack_and_heap_limits`, `history_respects_stack_and_heap_limits` — the same for the other two limits:
with a stack limit S and a heap limit H, after any history of sources the data stack holds at most `max S (before)`
cells and the heap at most `max H (before)`, and the limits themselves are untouched — compiling `var` included (the
only thing that allocates: Proofs/CompileHeap.lean), unwinding included; again for every session, no well-formedness
assumed (Proofs/VMBound.lean, SessionBound.lean).

The set_*_limit calls are `Mach.setInsnLimit` (which also resets the meter), `setStackLimit`, `setHeapLimit`;
variables are allocated while a source is built (`allocHeap`), never by a running instruction.
-/
import XehModel.Proofs.SessionMeter
import XehModel.Proofs.SessionBound
import XehModel.Props.C02
import XehModel.Proofs.CursorLimit

namespace Xeh.C14
open Xeh Xeh.Mach

variable (np : String → Option Prog)

/-- the fetch that would exceed the limit fails before any state change -/
theorem insn_fail_atomic (m : Mach) (N : Nat) (hN : m.insnLimit = some N) (hm : m.meter ≥ N) :
    step np m = (.err (limitMsg "insn" N), m) := by
  simp [step, meterIncrease, hN, hm]

/-- **Instruction limit is a hard bound**: the meter never exceeds N, after any step of any program. -/
theorem meter_bound (m : Mach) (w : WF m) (N : Nat) (hN : m.insnLimit = some N) (hm : m.meter ≤ N) :
    (step np m).2.meter ≤ N := (step_frame np m w).2.1 N hN hm

/-- every successfully executed instruction advances the meter, so with the meter reset to 0 by
    `set_insn_limit(N)` at most N instructions ever execute -/
theorem insn_count_bound (n : Nat) (m m' : Mach) (w : WF m) (N : Nat) (hN : m.insnLimit = some N)
    (hm : m.meter ≤ N) (h : C02.stepN np n m = some m') : m.meter + n ≤ m'.meter ∧ m'.meter ≤ N := by
  induction n generalizing m with
  | zero => simp [C02.stepN] at h; subst h; exact ⟨by omega, hm⟩
  | succ n ih =>
    simp only [C02.stepN] at h
    split at h
    · rename_i m1 hs
      have f := step_frame np m w
      rw [hs] at f
      obtain ⟨⟨hl, _⟩, hb, _, _, hlt, w1⟩ := f
      have := ih m1 w1 (hl.trans hN) (hb N hN hm) h
      have : m.meter < m1.meter := hlt rfl
      omega
    · cases h

/-- **Stack limit is a hard bound**: no step of any program makes the data stack longer than
    max(S, its current length) — successful or failing. -/
theorem stack_bound (m : Mach) (w : WF m) (S : Nat) (hS : m.stackLimit = some S) :
    (step np m).2.ds.length ≤ max S m.ds.length := (step_frame np m w).2.2.1 S hS

/-- the push that would exceed the limit fails with an error and changes nothing -/
theorem push_fail_atomic (m : Mach) (c : Cell) (S : Nat) (hS : m.stackLimit = some S) (h : m.ds.length ≥ S) :
    m.pushData c = (.err (limitMsg "stack" S), m) := by
  simp [pushData, hS, h]

/-- over any run: the stack stays within max(S, initial depth), the meter within N -/
theorem run_bounds (fuel : Nat) (m : Mach) (w : WF m) (S N : Nat) (hS : m.stackLimit = some S)
    (hN : m.insnLimit = some N) (hm : m.meter ≤ N) (o : Outcome Unit) (m' : Mach)
    (h : Mach.run np fuel m = some (o, m')) :
    m'.ds.length ≤ max S m.ds.length ∧ m'.meter ≤ N ∧ m'.heap.length = m.heap.length :=
  have b := Mach.run_bnd np fuel m _ h
  ⟨b.2.2.2.1 S hS, (Mach.run_mle np fuel m _ h).bound N hN hm, b.2.2.1⟩

/-- `State::run` itself, any machine (no well-formedness needed for the meter) -/
theorem run_counts_against_the_limit (fuel : Nat) (m : Mach) (r : R Unit) (h : Mach.run np fuel m = some r) :
    r.2.insnLimit = m.insnLimit ∧ m.meter ≤ r.2.meter ∧ ∀ N, m.insnLimit = some N → m.meter ≤ N → r.2.meter ≤ N :=
  (Mach.run_mle np fuel m r h).triple

/-- no running instruction allocates: the heap keeps its size through every step -/
theorem heap_len_step (m : Mach) (w : WF m) : (step np m).2.heap.length = m.heap.length :=
  (step_frame np m w).2.2.2.1

/-- allocation (done while building `var`) respects the limit and fails atomically -/
theorem alloc_bound (m : Mach) (v : Cell) (H : Nat) (hH : m.heapLimit = some H) :
    (m.allocHeap v).2.heap.length ≤ max H m.heap.length ∧
    (m.heap.length ≥ H → (m.allocHeap v).2 = m ∧ ∃ e, (m.allocHeap v).1 = .err e) := by
  unfold allocHeap
  split
  · exact ⟨Nat.le_max_right _ _, fun _ => ⟨rfl, _, rfl⟩⟩
  · simp only [hH]
    split
    · exact ⟨Nat.le_max_right _ _, fun _ => ⟨rfl, _, rfl⟩⟩
    · rename_i hlt
      refine ⟨by simp only [List.length_append, List.length_cons, List.length_nil]; omega, fun h => absurd h hlt⟩

/-- A run stopped by the instruction limit stopped *before* the offending fetch with the machine
    untouched (`insn_fail_atomic`), so raising the limit resumes from exactly the machine that was
    interrupted: nothing was lost, nothing half-executed. -/
theorem resume_after_raise (m : Mach) (N : Nat) (hN : m.insnLimit = some N) (hm : m.meter ≥ N) :
    (step np m).2 = m := by
  rw [insn_fail_atomic np m N hN hm]

example : (step (fun _ => none) ({ code := [.loadI64 1, .jump (-1)], insnLimit := some 3, stackLimit := some 1 } : Mach)).1 = .ok () := by decide
/-- an endless, stack-flooding loop under N = 3, S = 1: the second push fails, the stack holds 1 cell -/
example : (Mach.run (fun _ => none) 10 ({ code := [.loadI64 1, .jump (-1)], insnLimit := some 3, stackLimit := some 1 } : Mach)).map
    (fun r => (r.1, r.2.ds.length, r.2.meter)) = some (.err (limitMsg "stack" 1), 1, 3) := by decide

/-! ### whole sources: what is executed while a source is being BUILT counts too, also when the source is rejected -/
section Sources
open Xeh.Session

/-- the session after a source, whatever became of it (built and run, rejected and unwound, failed at run time, or stopped at a
    `panic` value of the model);
    `none` when the model has no answer (a word outside it, the fuel of the model's run) -/
def after : Sess.BRes → Option Sess
  | .done s => some s
  | .rejected _ s => some s
  | .failed _ s => some s
  | .panic _ s => some s
  | _ => none

theorem of_after {T : Sess → Prop} {r : Sess.BRes} {s' : Sess} (h : after r = some s') (b : r.All T T) : T s' := by
  cases r <;> cases h <;> exact b

/-- a run of `Option`-valued steps, each of which keeps a reflexive and transitive relation, keeps it -/
theorem steps_keep {σ ι : Type} {T : σ → σ → Prop} (refl : ∀ s, T s s) (trans : ∀ {a b c}, T a b → T b c → T a c)
    {f : ι → σ → Option σ} (hf : ∀ i s s', f i s = some s' → T s s') {run : List ι → σ → Option σ}
    (h0 : ∀ s, run [] s = some s) (h1 : ∀ i l s, run (i :: l) s = (f i s).bind (run l)) :
    ∀ l s s', run l s = some s' → T s s'
  | [], s, s', h => by rw [h0] at h; cases h; exact refl s
  | i :: l, s, s', h => by
    rw [h1] at h
    cases h1' : f i s with
    | none => rw [h1'] at h; cases h
    | some s1 => rw [h1'] at h; exact trans (hf i s s1 h1') (steps_keep refl trans hf h0 h1 l s1 s' h)

/-- **one source under an instruction limit**: afterwards the limit is what it was, the meter has not gone down —
    in particular a rejected source does not get back what its meta blocks executed — and it has not passed the
    limit.  Every machine state, every source, every mode; no well-formedness hypothesis. -/
theorem source_counts_against_the_limit (fuel : Nat) (mode : Mode) (toks : List Compile.Tok) (s s' : Sess)
    (h : after (s.buildSource fuel mode toks) = some s') :
    s'.m.insnLimit = s.m.insnLimit ∧ s.m.meter ≤ s'.m.meter ∧
    ∀ N, s.m.insnLimit = some N → s.m.meter ≤ N → s'.m.meter ≤ N :=
  MLe.triple (of_after h (buildSource_meter fuel mode toks s))

/-- a history of sources submitted one after the other to the same interpreter -/
def history (fuel : Nat) : List (Mode × List Compile.Tok) → Sess → Option Sess
  | [], s => some s
  | (mode, toks) :: rest, s =>
    match after (s.buildSource fuel mode toks) with
    | some s' => history fuel rest s'
    | none => none

theorem history_cons (fuel : Nat) (x : Mode × List Compile.Tok) (rest : List (Mode × List Compile.Tok)) (s : Sess) :
    history fuel (x :: rest) s = (after (s.buildSource fuel x.1 x.2)).bind (history fuel rest) := by
  rw [history]; cases after (s.buildSource fuel x.1 x.2) <;> rfl

/-- **any history of sources**: with the limit set to N and the meter at most N, the meter is at most N afterwards
    and never went down: at most N instructions execute after the limit is set, however the work is spread over
    sources that build, fail or are rejected -/
theorem history_counts_against_the_limit (fuel : Nat) (srcs : List (Mode × List Compile.Tok)) :
    ∀ (s s' : Sess), history fuel srcs s = some s' →
      s'.m.insnLimit = s.m.insnLimit ∧ s.m.meter ≤ s'.m.meter ∧
      ∀ N, s.m.insnLimit = some N → s.m.meter ≤ N → s'.m.meter ≤ N :=
  fun s s' h => MLe.triple <| steps_keep (T := fun a b : Sess => MLe a.m b.m) (fun _ => MLe.refl _) MLe.trans
    (fun x s _ h => of_after h (buildSource_meter fuel x.1 x.2 s)) (fun _ => rfl) (history_cons fuel) srcs s s' h

/-- what a host does between the moment it sets the instruction limit and the moment it sets it again: sources, the
    OTHER two limits (sized to the input it is about to feed), recording switched on or off, a stopped program given up -/
inductive HostOp
  | source (mode : Mode) (toks : List Compile.Tok)
  | stackLimit (l : Option Nat)
  | heapLimit (l : Option Nat)
  | recording (on : Bool)
  | abortRun

def hostStep (fuel : Nat) : HostOp → Sess → Option Sess
  | .source mode toks, s => after (s.buildSource fuel mode toks)
  | .stackLimit l, s => some { s with m := s.m.setStackLimit l }
  | .heapLimit l, s => some { s with m := s.m.setHeapLimit l }
  | .recording on, s => some { s with m := s.m.setRecording on }
  | .abortRun, s => some s.abortRun

def hostHistory (fuel : Nat) : List HostOp → Sess → Option Sess
  | [], s => some s
  | op :: rest, s =>
    match hostStep fuel op s with
    | some s' => hostHistory fuel rest s'
    | none => none

/-- one host operation: the instruction limit is what it was, the meter has not gone down and has not passed it -/
theorem hostStep_mle {fuel : Nat} {op : HostOp} {s s' : Sess} (h : hostStep fuel op s = some s') : MLe s.m s'.m := by
  cases op with
  | source mode toks => exact of_after h (buildSource_meter fuel mode toks s)
  | _ => cases h; exact ⟨rfl, Nat.le_refl _, fun _ _ h => h⟩

/-- **any history of host operations that does not set the instruction limit again**: at most N instructions execute
    after the limit is set — adjusting the stack or heap limit, switching recording, giving a program up and feeding
    further sources (built, failed or rejected) gives nothing back -/
theorem host_history_counts_against_the_limit (fuel : Nat) (ops : List HostOp) :
    ∀ (s s' : Sess), hostHistory fuel ops s = some s' →
      s'.m.insnLimit = s.m.insnLimit ∧ s.m.meter ≤ s'.m.meter ∧
      ∀ N, s.m.insnLimit = some N → s.m.meter ≤ N → s'.m.meter ≤ N :=
  fun s s' h => MLe.triple <| steps_keep (T := fun a b : Sess => MLe a.m b.m) (fun _ => MLe.refl _) MLe.trans
    (fun _ _ _ => hostStep_mle) (fun _ => rfl)
    (fun op _ s => by rw [hostHistory]; cases hostStep fuel op s <;> rfl) ops s s' h

/-- … and the count really starts at the moment the limit is set: `set_insn_limit N` followed by any such history leaves
    the meter — the number of instructions executed since — at most N -/
theorem at_most_N_after_the_limit_is_set (fuel : Nat) (ops : List HostOp) (N : Nat) (s s' : Sess)
    (h : hostHistory fuel ops { s with m := s.m.setInsnLimit (some N) } = some s') :
    s'.m.meter ≤ N ∧ s'.m.insnLimit = some N := by
  obtain ⟨a1, _, a3⟩ := host_history_counts_against_the_limit fuel ops _ s' h
  exact ⟨a3 N rfl (Nat.zero_le _), a1⟩

/-- non-vacuity: limit 10, a source of four instructions, the stack limit adjusted, recording switched on, the same
    source again, the heap limit adjusted, and a third time: the third one is refused at the limit (meter 10), whatever
    was configured in between -/
example :
    (hostHistory 100
      [.source .eval [.lit (.int 1), .lit (.int 2), .word "drop", .word "drop"], .stackLimit (some 50), .recording true,
       .source .eval [.lit (.int 1), .lit (.int 2), .word "drop", .word "drop"], .heapLimit (some 70), .abortRun,
       .source .eval [.lit (.int 1), .lit (.int 2), .word "drop", .word "drop"]]
      ({ m := ({ dict := [("drop", .native false "drop")] } : Mach).setInsnLimit (some 10) } : Sess)).map
      (fun s => (s.m.meter, s.m.insnLimit, s.m.stackLimit, s.m.heapLimit, s.m.log.isSome)) = some (10, some 10, some 50, some 70, true) := by decide +kernel

/-- **one source under a stack limit S and a heap limit H**: whatever becomes of it (built and run, rejected and
    unwound, failed at run time), with everything its meta blocks execute and every variable it declares: the limits
    are what they were, the data stack holds at most `max S (cells before)` cells and the variable heap at most
    `max H (cells before)`.  In particular an interpreter that starts within its limits stays within them.
    Every session, every source, every mode; no well-formedness hypothesis. -/
theorem source_respects_stack_and_heap_limits (fuel : Nat) (mode : Mode) (toks : List Compile.Tok) (s s' : Sess)
    (h : after (s.buildSource fuel mode toks) = some s') :
    s'.m.stackLimit = s.m.stackLimit ∧ s'.m.heapLimit = s.m.heapLimit ∧
    (∀ S, s.m.stackLimit = some S → s'.m.ds.length ≤ max S s.m.ds.length) ∧
    (∀ H, s.m.heapLimit = some H → s'.m.heap.length ≤ max H s.m.heap.length) :=
  of_after h (buildSource_bound fuel mode toks s)

/-- **any history of sources**: the bounds compose, each source starting from the depth the one before it left, so
    the stack stays within `max S (depth before the first source)`, the heap likewise -/
theorem history_respects_stack_and_heap_limits (fuel : Nat) (srcs : List (Mode × List Compile.Tok)) :
    ∀ (s s' : Sess), history fuel srcs s = some s' →
      s'.m.stackLimit = s.m.stackLimit ∧ s'.m.heapLimit = s.m.heapLimit ∧
      (∀ S, s.m.stackLimit = some S → s'.m.ds.length ≤ max S s.m.ds.length) ∧
      (∀ H, s.m.heapLimit = some H → s'.m.heap.length ≤ max H s.m.heap.length) :=
  steps_keep (T := fun a b : Sess => SB a.m b.m) (fun _ => SB.refl _) SB.trans
    (fun x s _ h => of_after h (buildSource_bound fuel x.1 x.2 s)) (fun _ => rfl) (history_cons fuel) srcs

/-- non-vacuity, in the situation the property is about: limit 10; a source whose meta block executes four
    instructions and which is then rejected (unknown word `foo`): what it compiled is gone (code length 0 again), the
    four instructions stay counted -/
example :
    (after (({ m := { insnLimit := some 10, dict := [("#(", .native true "#("), ("#)", .native true "#)"),
                                                     ("drop", .native false "drop")] } } : Sess).buildSource 100 .eval
      [.word "#(", .lit (.int 1), .lit (.int 2), .word "drop", .word "drop", .word "#)", .word "foo"])).map
      (fun s => (s.m.meter, s.m.code.length, s.m.insnLimit)) = some (4, 0, some 10) := by decide +kernel

end Sources

/-! ### the parsing and construction words (the layer of Model/Cursor.lean) -/

/-- **the stack limit binds the bit-string words too**, over any history: with `set_stack_limit(Some(L))` in force, after
    any sequence of reading, seeking, opening / closing, packing and emitting words — succeeding or failing, the limit
    possibly below the depth the stack already has — the limit is still `L` and the data stack is never deeper than
    `max L (depth before)`; a word whose result does not fit fails (`read_refused_moves_nothing`, C06) -/
theorem parsing_words_respect_the_stack_limit (ops : List Cur.POp) (s : Cur.CurState) (L : Nat)
    (h : s.stackLimit = some L) (hops : ∀ op ∈ ops, ∀ l, op ≠ Cur.POp.limit l) :
    (Cur.runAll s ops).stackLimit = some L ∧ (Cur.runAll s ops).ds.length ≤ max L s.ds.length :=
  Cur.limit_history ops s L h hops

end Xeh.C14
