/-
Two machines that agree on everything except the instruction meter and the about-to-stop flag, and whose captured
output differs by a fixed prefix (`a.out = pre ++ b.out`), compute the same outcome and stay so related: through every
primitive, every native word (`Prog`), every opcode, and — without an instruction limit — `step`, `next` and `run`.
Unlike `normAll` (VMSim.lean) the reverse log is NOT forgotten: the two machines keep identical logs.
-/
import XehModel.Proofs.VMCong

namespace Xeh.Mach

def normA (m : Mach) : Mach := { m with meter := 0, aboutToStop := false }
def normB (pre : List Char) (m : Mach) : Mach := { m with meter := 0, aboutToStop := false, out := pre ++ m.out }

namespace Ghost

variable {pre : List Char}

/-- `SimBy` at `normA a = normB pre b` -/
def SimR {α : Type} (pre : List Char) (ra rb : Outcome α × Mach) : Prop := ra.1 = rb.1 ∧ normA ra.2 = normB pre rb.2

/-- appending to the output is the one write that does not commute with the normalisations by unfolding: the prefix
    has to be reassociated -/
theorem cong : FetchCong fun a b => normA a = normB pre b where
  view := congrArg seen
  log s := congrArg fun m : Mach => m.logStep s
  setDs x := congrArg fun m : Mach => { m with ds := x }
  setRs x := congrArg fun m : Mach => { m with rs := x }
  setLoops x := congrArg fun m : Mach => { m with loops := x }
  setSpecial x := congrArg fun m : Mach => { m with special := x }
  setHeap x := congrArg fun m : Mach => { m with heap := x }
  out s h := (congrArg (fun m : Mach => { m with out := m.out ++ s }) h).trans
    (congrArg (fun o => { normB pre _ with out := o }) (List.append_assoc pre _ s))
  stop h := h
  setIp n := congrArg fun m : Mach => m.setIp n
  nextIp := congrArg nextIp
  ip := congrArg fun m : Mach => m.ctx.ip
  code := congrArg Mach.code
  dict := congrArg Mach.dict
  setCode c := congrArg fun m : Mach => { m with code := c }
  insnLimit := congrArg Mach.insnLimit
  tick h := h

theorem ds_eq : ∀ a b : Mach, normA a = normB pre b → a.ds = b.ds ∧ a.ctx = b.ctx ∧ a.rs = b.rs ∧ a.loops = b.loops ∧
    a.special = b.special ∧ a.heap = b.heap ∧ a.code = b.code ∧ a.dict = b.dict ∧ a.insnLimit = b.insnLimit :=
  fun _ _ h => ⟨cong.ds h, (congrArg Mach.ctx h :), cong.rs h, cong.loops h, cong.special h, cong.heap h, cong.code h,
    cong.dict h, cong.insnLimit h⟩

theorem limit_eq (a b : Mach) (h : normA a = normB pre b) : a.insnLimit = b.insnLimit ∧ a.log = b.log ∧ a.out = pre ++ b.out :=
  ⟨cong.insnLimit h, (congrArg Mach.log h :), (congrArg Mach.out h :)⟩

theorem popData_sim : ∀ a b : Mach, normA a = normB pre b → SimR pre a.popData b.popData := fun _ _ => cong.popData

theorem next_sim (np : String → Option Prog) (a b : Mach) (h : normA a = normB pre b) (hl : a.insnLimit = none) :
    SimR pre (next np a) (next np b) :=
  have r := cong.noLimit.next (a := a) ⟨h, hl⟩ np
  ⟨r.1, r.2.1⟩

theorem run_sim (np : String → Option Prog) (fuel : Nat) : ∀ a b : Mach, normA a = normB pre b → a.insnLimit = none →
    RunBy (fun a b => normA a = normB pre b) (run np fuel a) (run np fuel b) :=
  fun _ _ h hl => (cong.noLimit.run np fuel ⟨h, hl⟩).mono fun _ _ h => h.1

local macro "sim_bind " f:term ", " ea:term ", " eb:term " with " ma:ident mb:ident h2:ident : tactic => `(tactic|
  (have hs := $f
   revert hs
   generalize $ea = ra
   generalize $eb = rb
   obtain ⟨oa, $ma:ident⟩ := ra
   obtain ⟨ob, $mb:ident⟩ := rb
   rintro ⟨h1, $h2:ident⟩
   simp only at h1 $h2:ident
   subst h1
   cases oa <;> try exact ⟨rfl, $h2⟩))

end Ghost

end Xeh.Mach
