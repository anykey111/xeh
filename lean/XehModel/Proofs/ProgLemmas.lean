/- Equations of `Prog.runStack` and of `Cell.value` on each constructor; `mem_of_lookup` for the word tables. -/
import XehModel.Model.Prog

namespace Xeh.Prog

theorem runStack_pop_cons (k : Cell → Prog) (h : Nat) (c : Cell) (s : List Cell) (hh : h ≤ s.length) :
    runStack (.pop k) h (c :: s) = runStack (k c) h s := by
  simp [runStack]; omega

theorem runStack_top_cons (k : Cell → Prog) (h : Nat) (c : Cell) (s : List Cell) (hh : h ≤ s.length) :
    runStack (.top k) h (c :: s) = runStack (k c) h (c :: s) := by
  simp [runStack]; omega

theorem runStack_pop2 {h : Nat} {s : List Cell} (hh : h ≤ s.length) (k : Cell → Cell → Prog) (c d : Cell) :
    runStack (.pop fun b => .pop fun a => k b a) h (c :: d :: s) = runStack (k c d) h s := by
  rw [runStack_pop_cons _ _ _ _ (Nat.le_succ_of_le hh), runStack_pop_cons _ _ _ _ hh]

@[simp] theorem runStack_push (c : Cell) (k : Prog) (h : Nat) (s : List Cell) :
    runStack (.push c k) h s = runStack k h (c :: s) := rfl

@[simp] theorem runStack_done (h : Nat) (s : List Cell) : runStack .done h s = .ok s := rfl
@[simp] theorem runStack_fail (e : Xerr) (h : Nat) (s : List Cell) : runStack (.fail e) h s = .err e := rfl
@[simp] theorem runStack_panic (m : String) (h : Nat) (s : List Cell) : runStack (.panic m) h s = .panic m := rfl

@[simp] theorem runStack_pop_nil (k : Cell → Prog) (h : Nat) : runStack (.pop k) h [] = .err .stackUnderflow := rfl
@[simp] theorem runStack_top_nil (k : Cell → Prog) (h : Nat) : runStack (.top k) h [] = .err .stackUnderflow := rfl

@[simp] theorem runStack_depth (k : Nat → Prog) (h : Nat) (s : List Cell) :
    runStack (.depth k) h s = runStack (k (s.length - h)) h s := rfl
@[simp] theorem runStack_rawLen (k : Nat → Prog) (h : Nat) (s : List Cell) :
    runStack (.rawLen k) h s = runStack (k s.length) h s := rfl
@[simp] theorem runStack_rawFrom (p : Nat) (k : List Cell → Prog) (h : Nat) (s : List Cell) :
    runStack (.rawFrom p k) h s = runStack (k (s.reverse.drop p)) h s := rfl
@[simp] theorem runStack_print (t : List Char) (k : Prog) (h : Nat) (s : List Cell) :
    runStack (.print t k) h s = runStack k h s := rfl
@[simp] theorem runStack_stop (k : Prog) (h : Nat) (s : List Cell) : runStack (.stop k) h s = runStack k h s := rfl

theorem runStack_ite (c : Prop) [Decidable c] (p q : Prog) (h : Nat) (s : List Cell) :
    runStack (if c then p else q) h s = if c then runStack p h s else runStack q h s := by split <;> rfl

end Xeh.Prog

namespace Xeh

@[simp] theorem value_nil : Cell.value .nil = .nil := rfl
@[simp] theorem value_flag (b) : Cell.value (.flag b) = .flag b := rfl
@[simp] theorem value_int (i) : Cell.value (.int i) = .int i := rfl
@[simp] theorem value_real (r) : Cell.value (.real r) = .real r := rfl
@[simp] theorem value_str (x) : Cell.value (.str x) = .str x := rfl
@[simp] theorem value_vec (x) : Cell.value (.vec x) = .vec x := rfl
@[simp] theorem value_map (x) : Cell.value (.map x) = .map x := rfl
@[simp] theorem value_fn (n a) : Cell.value (.fn n a) = .fn n a := rfl
@[simp] theorem value_bitstr (x) : Cell.value (.bitstr x) = .bitstr x := rfl
@[simp] theorem value_any (x) : Cell.value (.any x) = .any x := rfl

theorem mem_of_lookup [BEq α] [LawfulBEq α] {l : List (α × β)} {k : α} {b : β} (h : l.lookup k = some b) : (k, b) ∈ l := by
  obtain ⟨l₁, l₂, rfl, _⟩ := List.lookup_eq_some_iff.mp h
  exact List.mem_append_right _ (.head _)

end Xeh
