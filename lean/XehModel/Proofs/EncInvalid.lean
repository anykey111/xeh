/- A byte outside alphabet ∪ padding makes every decoder answer `invalid`; `bitstr_concat` never panics. -/
import XehModel.Proofs.EncGlue

namespace Xeh.Enc
open Xeh Prog

theorem b32DecChunks_some (tbl : List (Option Nat)) (data r : List Nat)
    (h : b32DecChunks tbl data = some r) : ∀ c ∈ data, (b32Val tbl c).isSome = true := by
  fun_induction b32DecChunks tbl data generalizing r with
  | case1 c0 c1 c2 c3 c4 c5 c6 c7 rest v r' hv hr ih =>
    intro c hc
    rcases List.mem_append.1 (show c ∈ [c0, c1, c2, c3, c4, c5, c6, c7] ++ rest from hc) with hc | hc
    · exact vals_some _ _ _ hr c hc
    · exact ih r' hv c hc
  | case2 c0 c1 c2 c3 c4 c5 c6 c7 rest hn => simp at h
  | case3 => simp
  | case4 part h1 h2 v hv => exact vals_some _ _ _ hv
  | case5 part h1 h2 hv => simp at h

theorem b32Decode_invalid (tbl : List (Option Nat)) (data : List Nat)
    (h : ∃ c ∈ data, b32Val tbl c = none) : b32Decode tbl data = none := by
  obtain ⟨c, hc, hv⟩ := h
  unfold b32Decode
  split
  · rfl
  · cases hd : b32DecChunks tbl data with
    | none => rfl
    | some r =>
      have := b32DecChunks_some tbl data r hd c hc
      simp [hv] at this

theorem b64Final_some (c0 c1 c2 c3 : Nat) (r : List Nat) (h : b64Final c0 c1 c2 c3 = some r) :
    ∀ c ∈ [c0, c1, c2, c3], (b64Val c).isSome = true ∨ c = 61 := by
  unfold b64Final at h
  cases h0 : b64Val c0 <;> cases h1 : b64Val c1 <;> simp [h0, h1] at h
  intro c hc
  simp only [List.mem_cons, List.not_mem_nil, or_false] at hc
  by_cases e2 : c2 = 61
  · by_cases e3 : c3 = 61
    · rcases hc with rfl | rfl | rfl | rfl <;> simp [h0, h1, e2, e3]
    · simp [e2, e3] at h
  · cases h2 : b64Val c2 with
    | none => simp [e2, h2] at h
    | some v2 =>
      by_cases e3 : c3 = 61
      · rcases hc with rfl | rfl | rfl | rfl <;> simp [h0, h1, h2, e3]
      · cases h3 : b64Val c3 with
        | none => simp [e2, h2, e3, h3] at h
        | some v3 => rcases hc with rfl | rfl | rfl | rfl <;> simp [h0, h1, h2, h3]

theorem b64DecQuads_some (data r : List Nat) (h : b64DecQuads data = some r) :
    ∀ c ∈ data, (b64Val c).isSome = true ∨ c = 61 := by
  fun_induction b64DecQuads data generalizing r with
  | case1 c0 c1 c2 c3 rest he =>
    simp at he; subst he
    exact b64Final_some c0 c1 c2 c3 r h
  | case2 c0 c1 c2 c3 rest he v r' hv hr ih =>
    intro c hc
    rcases List.mem_append.1 (show c ∈ [c0, c1, c2, c3] ++ rest from hc) with hc | hc
    · exact .inl (vals_some _ _ _ hr c hc)
    · exact ih r' hv c hc
  | case3 c0 c1 c2 c3 rest he hn => simp at h
  | case4 => simp
  | case5 => simp at h

theorem b64Decode_invalid (data : List Nat) (h : ∃ c ∈ data, b64Val c = none ∧ c ≠ 61) :
    b64Decode data = none := by
  obtain ⟨c, hc, hv, hne⟩ := h
  cases hd : b64Decode data with
  | none => rfl
  | some r =>
    have := b64DecQuads_some data r hd c hc
    simp [hv, hne] at this

theorem z85DecChunk_some (l r : List Nat) (h : z85DecChunk l = some r) :
    ∀ c ∈ l, (z85Val c).isSome = true := by
  unfold z85DecChunk at h
  cases hv : vals z85Val l with
  | none => simp [hv] at h
  | some v => exact vals_some _ _ _ hv

theorem z85DecTail_bytes (chunk r : List Nat) (h : z85DecTail chunk = .bytes r) :
    ∀ c ∈ chunk, (z85Val c).isSome = true := by
  simp only [z85DecTail] at h
  split at h
  · cases h
  · rename_i bin hc
    rw [List.takeWhile_eq_take_findIdx_not, List.length_take_of_le List.findIdx_le_length,
      ← List.dropWhile_eq_drop_findIdx_not] at hc
    intro c hmem
    -- every byte is in the run of leading `#` or in the decoded remainder
    rw [← List.takeWhile_append_dropWhile (p := (· == 35)) (l := chunk)] at hmem
    rcases List.mem_append.1 hmem with hm | hm
    · obtain rfl : c = 35 := by simpa using List.all_eq_true.mp List.all_takeWhile c hm
      decide
    · exact z85DecChunk_some _ _ hc c hm

theorem z85DecChunks_bytes (data r : List Nat) (h : z85DecChunks data = .bytes r) :
    ∀ c ∈ data, (z85Val c).isSome = true := by
  fun_induction z85DecChunks data generalizing r with
  | case1 c0 c1 c2 c3 c4 rest hc =>
    obtain ⟨hr, -⟩ := hc
    simp at hr; subst hr
    exact z85DecTail_bytes _ r h
  | case2 c0 c1 c2 c3 c4 rest hc hn => simp at h
  | case3 c0 c1 c2 c3 c4 rest hc bin hb r' hr ih =>
    intro c hmem
    rcases List.mem_append.1 (show c ∈ [c0, c1, c2, c3, c4] ++ rest from hmem) with hm | hm
    · exact z85DecChunk_some _ _ hb c hm
    · exact ih r' hr c hm
  | case4 c0 c1 c2 c3 c4 rest hc bin hb hd ih =>
    exfalso
    cases hx : z85DecChunks rest with
    | bytes r' => exact hd r' hx
    | invalid => simp [hx] at h
    | panic s => simp [hx] at h
  | case5 => simp
  | case6 => simp at h

theorem z85Guarded_invalid (data : List Nat) (h : ∃ c ∈ data, z85Val c = none) :
    z85Guarded data = .invalid := by
  obtain ⟨c, hc, hv⟩ := h
  rcases z85Guarded_eq data with h | ⟨-, h⟩
  · exact h
  · cases hd : z85DecChunks data with
    | invalid => rw [h, hd]
    | panic s => exact absurd (h.trans hd) (z85Guarded_no_panic data s)
    | bytes r =>
      have := z85DecChunks_bytes data r hd c hc
      simp [hv] at this

theorem concatLeaf_no_panic (v : Cell) (p : String) : concatLeaf v ≠ .panic p := by
  unfold concatLeaf
  split <;> try simp
  split <;> simp

mutual
theorem concatList_no_panic : (l : CellList) → (p : String) → concatList l ≠ .panic p
  | .nil, p => by simp [concatList]
  | .cons x t, p => by
    have h1 := concatElem_no_panic x
    have h2 := concatList_no_panic t
    unfold concatList
    cases hx : concatElem x with
    | ok a =>
      cases ht : concatList t with
      | ok b => simp
      | err e => simp
      | panic q => exact absurd ht (h2 q)
    | err e => simp
    | panic q => exact absurd hx (h1 q)
theorem concatElem_no_panic : (c : Cell) → (p : String) → concatElem c ≠ .panic p
  | .vec xs, p | .tagged (.vec xs) _, p => by unfold concatElem; exact concatList_no_panic xs p
  | .tagged .nil _, p | .tagged (.flag _) _, p | .tagged (.int _) _, p | .tagged (.real _) _, p
  | .tagged (.str _) _, p | .tagged (.map _) _, p | .tagged (.fn _ _) _, p | .tagged (.bitstr _) _, p
  | .tagged (.any _) _, p | .tagged (.tagged _ _) _, p => by
    unfold concatElem; exact concatLeaf_no_panic _ p
  | .nil, p | .flag _, p | .int _, p | .real _, p | .str _, p | .map _, p | .fn _ _, p
  | .bitstr _, p | .any _, p => by
    unfold concatElem; exact concatLeaf_no_panic _ p
end

theorem bitstrConcat_no_panic (c : Cell) (p : String) : bitstrConcat c ≠ .panic p := by
  unfold bitstrConcat
  split
  · simp
  · exact concatList_no_panic _ p
  · simp
  · simp

end Xeh.Enc
