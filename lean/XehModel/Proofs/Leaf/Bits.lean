/-
Tie B, bridge theorems (DESIGN §4.2) — `upper_bound_index`, `cut_bits`, `bit_mask` (bitstr.rs).
-/
import XehModel.Proofs.Leaf.Common

namespace Xeh.LeafBridge
open Xeh.MI Xeh.Generated Xeh.LeafSpec

theorem upperBoundIndex_matches_source (p : Profile) (n : Nat) (hn : n < 2^64) :
    evalFn p src_upper_bound_index [(n : Int)] = .ok [(upperBoundIndex n : Nat)] := by
  unfold upperBoundIndex
  by_cases h : (n : Int) % 8 > 0
  all_goals
    mi_eval src_upper_bound_index
    omega

theorem cutBits_matches_source (p : Profile) (x s e : Nat) (hx : x < 256) (hs : s ≤ e) (he : e < 2^64) :
    evalFn p src_cut_bits [(x : Int), s, e] = .ok [(cutBitsVal x s e : Nat), (cutBitsLen s e : Nat)] := by
  -- only the residues `start % 8` and the clipped length reach the byte-level computation
  have e1 : (s : Int) % 8 = ((s % 8 : Nat) : Int) := by omega
  have e2 : min ((e : Int) - s) (8 - ((s % 8 : Nat) : Int)) = ((cutBitsLen s e : Nat) : Int) := by
    unfold cutBitsLen; omega
  rw [cutBitsVal, ← cutCore_spec x _ _ hx (by unfold cutBitsLen; omega), cutCore, ← e2, ← e1]
  mi_eval src_cut_bits src_bit_mask

theorem cutBitsVal_bits (x s e : Nat) (hx : x < 256) :
    cutBitsVal x s e = cutBitsBits x (s % 8) (cutBitsLen s e) :=
  cutBits_bits x _ _ (by unfold cutBitsLen; omega)

theorem bitMask_matches_source (p : Profile) (len : Nat) (h : len ≤ 8) :
    evalFn p src_bit_mask [(len : Int)] = .ok [(bitMask len : Nat)] := by
  mi_eval src_bit_mask
  exact lowMask ⟨len, by omega⟩

example : evalFn .debug src_cut_bits [0xA5, 9, 13] = .ok [4, 4] := by decide +kernel
/-- `start > end` is outside `cut_bits`' contract: a debug build panics -/
example : evalFn .debug src_cut_bits [0, 5, 4] = .panic "attempt to subtract with overflow" := by decide +kernel

end Xeh.LeafBridge
