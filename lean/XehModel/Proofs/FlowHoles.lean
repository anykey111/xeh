/-
The pending jumps of a statement as lists of code positions (`brkOf`, `armOf`, `pendOf`), beside the code instead of
in it (FlowHCode.lean keeps them in it): `fill` patches a list of opcodes at listed positions, `Holed` says what
`fill_hcode` says.  Nothing in the development rests on this file.
-/
import XehModel.Proofs.FlowSim

namespace Xeh.Structured
open Xeh Xeh.Mach Xeh.Compile Xeh.Compile.CState

/-- newest first -/
def brkOf : Stmt → Nat → List Nat
  | .seq a b, pc => brkOf b (pc + size a) ++ brkOf a pc
  | .ifThen _ a, pc => brkOf a (pc + 1)
  | .ifElse _ _ a b, pc => brkOf b (pc + 1 + size a + 1) ++ brkOf a (pc + 1)
  | .brk _, pc => [pc]
  | .caseS a, pc => brkOf a pc
  | .arm _ _ body, pc => brkOf body (pc + 1)
  | _, _ => []

/-- positions of the pending `endof` jumps of a statement compiled at `pc`, newest first -/
def armOf : Stmt → Nat → List Nat
  | .seq a b, pc => armOf b (pc + size a) ++ armOf a pc
  | .ifThen _ a, pc => armOf a (pc + 1)
  | .ifElse _ _ a b, pc => armOf b (pc + 1 + size a + 1) ++ armOf a (pc + 1)
  | .arm _ _ body, pc => (pc + 1 + size body) :: armOf body (pc + 1)
  | _, _ => []

/-- the opcode a pending `break` at `p` is finally replaced by, in a fragment that ends at `e` -/
def brkOp (bk : BK) (e : Nat) (p : Nat) : Op :=
  match bk with
  | .jump k => .jump (((e + k : Nat) : Int) - (p : Int))
  | .loop k => .breakOp (((e + k : Nat) : Int) - (p : Int))
  | .none => .nop

/-- the same for a pending `endof` at `q` -/
def armOp (ce : Option Nat) (e : Nat) (q : Nat) : Op := .jump (((e + ce.getD 0 : Nat) : Int) - (q : Int))

/-- `X` starts at `pc`: the opcode at absolute position `p` becomes `fb p` if `p ∈ B`, else `fa p` if `p ∈ A` -/
def fill (X : List Op) (pc : Nat) (B A : List Nat) (fb fa : Nat → Op) : List Op :=
  X.mapIdx fun i o => if pc + i ∈ B then fb (pc + i) else if pc + i ∈ A then fa (pc + i) else o

def InR (l : List Nat) (lo hi : Nat) : Prop := ∀ p ∈ l, lo ≤ p ∧ p < hi

theorem InR.append {a b : List Nat} {lo hi : Nat} (ha : InR a lo hi) (hb : InR b lo hi) : InR (a ++ b) lo hi := by
  intro p hp; rcases List.mem_append.mp hp with h | h; exact ha p h; exact hb p h

structure Holed (st : Stmt) (pc : Nat) (X : List Op) (D : List Nat) : Prop where
  /-- (`ce = none` is the context outside a `case` spine: there the statement must not have pending `endof`s) -/
  code : ∀ bk ce, (ce = none → armOf st pc = []) →
    fill X pc (brkOf st pc) (armOf st pc) (brkOp bk (pc + size st)) (armOp ce (pc + size st)) = (compileS st bk ce).map (·.1)
  dmap : ∀ bk ce, D = (compileS st bk ce).map (·.2)
  /-- the pending jumps are jumps (what `backpatch_jump` insists on) -/
  holes : ∀ p, p ∈ brkOf st pc ∨ p ∈ armOf st pc → X[p - pc]? = some (.jump 0)

theorem armOp_shift (ce : Option Nat) (n e q : Nat) (h : ce.isSome = true) : armOp (ce.map (· + n)) e q = armOp ce (e + n) q := by
  cases ce with
  | none => simp at h
  | some c => simp [armOp]; omega

theorem armOp_map (ce : Option Nat) (n e q : Nat) : armOp (ce.map (· + n)) e q = armOp ce (e + n) q ∨ ce = none := by
  cases ce with
  | none => right; rfl
  | some c => left; exact armOp_shift _ n e q rfl

theorem fill_append_out (X Z : List Op) (pc : Nat) (B A : List Nat) (fb fa : Nat → Op)
    (hB : InR B pc (pc + X.length)) (hA : InR A pc (pc + X.length)) :
    fill (X ++ Z) pc B A fb fa = fill X pc B A fb fa ++ Z := by
  simp only [fill, List.mapIdx_append]
  congr 1
  apply List.ext_getElem?; intro i
  have nB : pc + (i + X.length) ∉ B := fun h => by have := hB _ h; omega
  have nA : pc + (i + X.length) ∉ A := fun h => by have := hA _ h; omega
  simp [List.getElem?_mapIdx, nB, nA]

theorem Holed.closed {st : Stmt} {pc : Nat} {X : List Op} {D : List Nat} (h : Holed st pc X D)
    (hb : brkOf st pc = []) (ha : armOf st pc = []) (bk : BK) (ce : Option Nat) :
    (compileS st bk ce).map (·.1) = X := by
  have := h.code bk ce (fun _ => ha)
  rw [hb, ha] at this
  rw [← this]; apply List.ext_getElem?; intro i; simp [fill, List.getElem?_mapIdx]

/-- the entries a statement compiled at `pc` leaves on the flow stack, newest first -/
def pendOf : Stmt → Nat → List Flow
  | .seq a b, pc => pendOf b (pc + size a) ++ pendOf a pc
  | .ifThen _ a, pc => pendOf a (pc + 1)
  | .ifElse _ _ a b, pc => pendOf b (pc + 1 + size a + 1) ++ pendOf a (pc + 1)
  | .brk _, pc => [.breakF pc]
  | .caseS a, pc => (brkOf a pc).map .breakF
  | .arm _ _ body, pc => .caseEndOfF (pc + 1 + size body) :: pendOf body (pc + 1)
  | _, _ => []

/-! ### a block under construction: the statements compiled so far, oldest first -/

def sizeL (l : List Stmt) : Nat := (l.map size).sum
def pendL : List Stmt → Nat → List Flow
  | [], _ => []
  | x :: r, pc => pendL r (pc + size x) ++ pendOf x pc
def brkL : List Stmt → Nat → List Nat
  | [], _ => []
  | x :: r, pc => brkL r (pc + size x) ++ brkOf x pc
def armL : List Stmt → Nat → List Nat
  | [], _ => []
  | x :: r, pc => armL r (pc + size x) ++ armOf x pc

theorem size_seqs' (l : List Stmt) : size (seqs l) = sizeL l := size_seqs l

theorem brk_seqs : ∀ (l : List Stmt) (pc : Nat), brkOf (seqs l) pc = brkL l pc
  | [], _ => rfl
  | [x], pc => by simp [seqs, brkL]
  | x :: y :: r, pc => by simp [seqs, brkOf, brkL, brk_seqs (y :: r)]

theorem arm_seqs : ∀ (l : List Stmt) (pc : Nat), armOf (seqs l) pc = armL l pc
  | [], _ => rfl
  | [x], pc => by simp [seqs, armL]
  | x :: y :: r, pc => by simp [seqs, armOf, armL, arm_seqs (y :: r)]

theorem sizeL_append (l l' : List Stmt) : sizeL (l ++ l') = sizeL l + sizeL l' := by simp [sizeL]

theorem sizeL_snoc (l : List Stmt) (x : Stmt) : sizeL (l ++ [x]) = sizeL l + size x := by simp [sizeL]

theorem pendL_snoc : ∀ (l : List Stmt) (x : Stmt) (pc : Nat), pendL (l ++ [x]) pc = pendOf x (pc + sizeL l) ++ pendL l pc
  | [], x, pc => by simp [pendL, sizeL]
  | y :: r, x, pc => by simp [pendL, pendL_snoc r x, sizeL, Nat.add_assoc]

def HoledL : List Stmt → Nat → List Op → List Nat → Prop
  | [], _, X, D => X = [] ∧ D = []
  | x :: r, pc, X, D => ∃ Xx Dx Xr Dr, X = Xx ++ Xr ∧ D = Dx ++ Dr ∧ Holed x pc Xx Dx ∧ HoledL r (pc + size x) Xr Dr

theorem holedL_snoc : ∀ (l : List Stmt) (x : Stmt) (pc : Nat) (X : List Op) (D : List Nat) (Xx : List Op) (Dx : List Nat),
    HoledL l pc X D → Holed x (pc + sizeL l) Xx Dx → HoledL (l ++ [x]) pc (X ++ Xx) (D ++ Dx)
  | [], x, pc, X, D, Xx, Dx, h, hx => by
    obtain ⟨rfl, rfl⟩ := h
    exact ⟨Xx, Dx, [], [], by simp, by simp, by simpa [sizeL] using hx, rfl, rfl⟩
  | y :: r, x, pc, X, D, Xx, Dx, h, hx => by
    obtain ⟨Xy, Dy, Xr, Dr, rfl, rfl, hy, hr⟩ := h
    exact ⟨Xy, Dy, Xr ++ Xx, Dr ++ Dx, by simp, by simp, hy,
      holedL_snoc r x _ Xr Dr Xx Dx hr (by simpa [sizeL, Nat.add_assoc] using hx)⟩

def setAll (code : List Op) (ps : List Nat) (g : Nat → Op) : List Op := ps.foldl (fun c p => c.set p (g p)) code

theorem setAll_length (code : List Op) (ps : List Nat) (g : Nat → Op) : (setAll code ps g).length = code.length := by
  induction ps generalizing code with
  | nil => rfl
  | cons p r ih => simp [setAll, List.foldl_cons] at ih ⊢; rw [ih]; simp

end Xeh.Structured
