/- What the words with a test inside, and `arithOpsInt`, return on operands of the expected types. -/
import XehModel.Proofs.ProgLemmas
import XehModel.Model.Arith
namespace Xeh
open Prog

theorem test_compare (a b : Int) :
    (compare a b == .lt) = decide (a < b) ∧ (compare a b != .gt) = decide (a ≤ b) ∧
    (compare a b == .gt) = decide (a > b) ∧ (compare a b != .lt) = decide (a ≥ b) ∧
    (compare a b == .eq) = decide (a = b) ∧ (compare a b != .eq) = decide (a ≠ b) := by
  rcases Int.lt_trichotomy a b with h | h | h
  · rw [Int.compare_eq_lt.mpr h]; simp [bne]; omega
  · rw [Int.compare_eq_eq.mpr h]; simp [bne]; omega
  · rw [Int.compare_eq_gt.mpr h]; simp [bne]; omega

/-- the saturation step of `as i128` -/
theorem clamp_inRange (v : Int) :
    InRange (if v < -(2^127) then -(2^127) else if v > 2^127 - 1 then 2^127 - 1 else v) := by
  unfold InRange; split
  · omega
  · split <;> omega

variable {a b : Int} {x y : UInt64} {s : List Cell} {h : Nat} (hh : h ≤ s.length)
include hh

theorem arithOpsInt_int (fi) :
    (arithOpsInt fi).runStack h (.int b :: .int a :: s) = .ok (.int (fi a b) :: s) :=
  (runStack_pop_cons _ _ _ _ (Nat.le_succ_of_le hh)).trans (runStack_pop_cons _ _ _ _ hh)

theorem wordDiv_int :
    wordDiv.runStack h (.int b :: .int a :: s) =
      if b = 0 then .err .divisionByZero
      else if InRange (a.tdiv b) then .ok (.int (a.tdiv b) :: s) else .err .integerOverflow := by
  rw [wordDiv, runStack_pop2 hh]
  show runStack (if b = 0 then _ else if _ then _ else _) h s = _
  simp only [runStack_ite]; rfl

theorem wordDiv_real :
    wordDiv.runStack h (.real y :: .real x :: s) =
      if SF.isZero64 y then .err .divisionByZero else .ok (.real (SF.div64 x y) :: s) := by
  rw [wordDiv, runStack_pop2 hh]
  show runStack (if _ then _ else _) h s = _
  simp only [runStack_ite]; rfl

theorem wordRem_int :
    wordRem.runStack h (.int b :: .int a :: s) =
      if b = 0 then .err .divisionByZero else .ok (.int (wrap128 (a.tmod b)) :: s) := by
  rw [wordRem, runStack_pop2 hh]
  show runStack (if _ then _ else _) h s = _
  simp only [runStack_ite]; rfl

theorem wordNeg_int :
    wordNeg.runStack h (.int a :: s) = if InRange (-a) then .ok (.int (-a) :: s) else .err .integerOverflow := by
  rw [wordNeg, runStack_pop_cons _ _ _ _ hh]
  simp only [value_int, runStack_ite]; rfl

theorem wordAbs_int :
    wordAbs.runStack h (.int a :: s) =
      if InRange (a.natAbs : Int) then .ok (.int (a.natAbs : Int) :: s) else .err .integerOverflow := by
  rw [wordAbs, runStack_pop_cons _ _ _ _ hh]
  simp only [value_int, runStack_ite]; rfl


end Xeh
