/-
The byte-level facts behind the `cut_bits` bridge theorem (Proofs/Leaf/Bits.lean): shift-and-mask on a byte, as the
Rust code performs it in machine integers, is `(x / 2^shift) % 2^len`, and that number is the big-endian value of bits
`sb .. sb+len` of the byte. They do not depend on the regenerated sources.
-/
import XehModel.Model.LeafSpec
import XehModel.Proofs.LeafLemmas

namespace Xeh.LeafBridge
open Xeh.MI Xeh.LeafSpec

/-- the byte-level computation of `cut_bits` as the Rust code performs it, on the residues
    `sb = start % 8`, `len = min (end - start) (8 - sb)`:
    `x.wrapping_shr((8 - (sb + len)) as u32) & (!0xffu32.wrapping_shl(len as u32)) as u8` -/
def cutCore (x sb len : Int) : Int :=
  bitAnd .u8 (shrW .u8 x ((8 - (sb + len)) % (Ty.u8.bits : Int)).toNat)
    (Ty.u8.wrap (bitNot .u32 (shlW .u32 255 (len % (Ty.u32.bits : Int)).toNat)))

/-- `(!(0xff << len)) as u8` has the `len` low bits set -/
theorem lowMask : ∀ len : Fin 9,
    Ty.u8.wrap (bitNot .u32 (shlW .u32 255 ((len.val : Int) % (Ty.u32.bits : Int)).toNat)) =
      ((2 ^ len.val - 1 : Nat) : Int) := by decide

theorem bitAnd_lowMask (a len : Nat) (ha : a < 256) (hl : len ≤ 8) :
    bitAnd .u8 a ((2 ^ len - 1 : Nat) : Int) = ((a % 2 ^ len : Nat) : Int) := by
  have hp : 2 ^ len ≤ 2 ^ 8 := Nat.pow_le_pow_right (by decide) hl
  have hm : a % 2 ^ len ≤ a := Nat.mod_le _ _
  have hu (n : Nat) (h : n < 256) : Ty.u8.toU n = n := by simp only [Ty.toU, Ty.bits]; omega
  rw [bitAnd, hu a ha, hu _ (by omega), Nat.and_two_pow_sub_one_eq_mod]
  exact wrap_id (by simp only [Ty.lo]; omega) (by simp only [Ty.hi]; omega)

theorem cutCore_spec (x sb len : Nat) (hx : x < 256) (h : sb + len ≤ 8) :
    cutCore x sb len = ((x / 2 ^ (8 - sb - len)) % 2 ^ len : Nat) := by
  have hk : ((8 - ((sb : Int) + len)) % (Ty.u8.bits : Int)).toNat = (8 - sb - len) % 8 := by
    simp only [Ty.bits]; omega
  have hs (k : Nat) : shrW .u8 x k = ((x / 2 ^ k : Nat) : Int) := by simp [shrW]
  -- a shift by 8 is taken as a shift by 0, but then `len = 0`
  have h8 : x / 2 ^ ((8 - sb - len) % 8) % 2 ^ len = x / 2 ^ (8 - sb - len) % 2 ^ len := by
    cases len with
    | zero => simp [Nat.mod_one]
    | succ n => rw [Nat.mod_eq_of_lt (show 8 - sb - (n + 1) < 8 by omega)]
  rw [cutCore, hk, lowMask ⟨len, by omega⟩, hs,
    bitAnd_lowMask _ _ (Nat.lt_of_le_of_lt (Nat.div_le_self _ _) hx) (by omega), h8]

/-- the first of the bits is the top bit of the `len + 1` low bits of `x / 2^shift` -/
theorem cutBits_bits (x sb len : Nat) (h : sb + len ≤ 8) :
    (x / 2 ^ (8 - sb - len)) % 2 ^ len = cutBitsBits x sb len := by
  unfold cutBitsBits
  induction len generalizing sb with
  | zero => simp [Nat.mod_one, bitsToNat]
  | succ n ih =>
    have hm : 8 - (sb + 1) - n = 8 - sb - (n + 1) := by omega
    have hb : 7 - (sb + 0) = 8 - sb - (n + 1) + n := by omega
    have hf : (fun j => byteBit x (sb + j)) ∘ Nat.succ = fun j => byteBit x (sb + 1 + j) := by
      funext j; simp only [Function.comp, Nat.succ_eq_add_one, Nat.add_comm j, Nat.add_assoc]
    rw [List.range_succ_eq_map, List.map_cons, List.map_map, bitsToNat, List.length_map, List.length_range,
      hf, ← ih (sb + 1) (by omega), hm, Nat.mod_pow_succ, byteBit, hb, Nat.pow_add, ← Nat.div_div_eq_div_mul]
    rcases Nat.mod_two_eq_zero_or_one (x / 2 ^ (8 - sb - (n + 1)) / 2 ^ n) with h | h <;>
      simp [h, Nat.add_comm]

end Xeh.LeafBridge
