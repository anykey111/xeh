/-
Every primitive — whether it succeeds or fails — logs entries whose
undoing (most recent first) restores the core it started from, leaves code / meter / limits /
dictionary / heap size alone and respects the stack limit. The walk of `Proofs/VMPre` carries both facts — the
frame `Fr`, which needs no hypothesis, and reversibility `Rev`, which needs `WF` — over `Prog` (every native word)
and over the effects of every opcode.
-/
import XehModel.Proofs.VMPre

namespace Xeh.Mach

/-- marks never exceed the stacks they point into (holds initially, preserved by every operation) -/
structure WF (m : Mach) : Prop where
  ds : m.ctx.dsLen ≤ m.ds.length
  rs : m.ctx.rsLen ≤ m.rs.length
  ls : m.ctx.lsLen ≤ m.loops.length
  ss : m.ctx.ssPtr ≤ m.special.length

theorem WF.of_core {m m' : Mach} (h : m'.core = m.core) (w : WF m) : WF m' := by
  simp only [core, Core.mk.injEq] at h
  obtain ⟨h1, h2, h3, h4, h5, -⟩ := h
  exact ⟨by rw [h1, h2]; exact w.ds, by rw [h1, h3]; exact w.rs, by rw [h1, h4]; exact w.ls, by rw [h1, h5]; exact w.ss⟩

def isSetIp : RStep → Bool
  | .setIp _ => true
  | _ => false

def undoList : List RStep → Core → Outcome Core
  | [], c => .ok c
  | s :: rest, c =>
    match undoC c s with
    | (.ok (), c') => undoList rest c'
    | (.err e, _) => .err e
    | (.panic p, _) => .panic p

theorem undoList_append (a b : List RStep) (c : Core) (c' : Core) (h : undoList a c = .ok c') :
    undoList (a ++ b) c = undoList b c' := by
  induction a generalizing c with
  | nil => simp [undoList] at h; subst h; rfl
  | cons s rest ih =>
    simp only [List.cons_append, undoList] at h ⊢
    split at h <;> rename_i heq
    · exact ih _ h
    · cases h
    · cases h

/-- what no primitive, native word or opcode body touches -/
structure Fr (m m' : Mach) : Prop where
  code : m'.code = m.code
  meter : m'.meter = m.meter
  insnLimit : m'.insnLimit = m.insnLimit
  stackLimit : m'.stackLimit = m.stackLimit
  heapLimit : m'.heapLimit = m.heapLimit
  dict : m'.dict = m.dict
  heapLen : m'.heap.length = m.heap.length
  dsBound : ∀ S, m.stackLimit = some S → m'.ds.length ≤ max S m.ds.length

theorem Fr.refl (m : Mach) : Fr m m := ⟨rfl, rfl, rfl, rfl, rfl, rfl, rfl, fun S _ => by omega⟩

theorem Fr.trans {a b c : Mach} (h1 : Fr a b) (h2 : Fr b c) : Fr a c where
  code := h2.code.trans h1.code
  meter := h2.meter.trans h1.meter
  insnLimit := h2.insnLimit.trans h1.insnLimit
  stackLimit := h2.stackLimit.trans h1.stackLimit
  heapLimit := h2.heapLimit.trans h1.heapLimit
  dict := h2.dict.trans h1.dict
  heapLen := h2.heapLen.trans h1.heapLen
  dsBound := fun S hS => by
    have a1 := h1.dsBound S hS
    have a2 := h2.dsBound S (by rw [h1.stackLimit]; exact hS)
    omega

/-- `h` says that `m'` differs from `m` in core and log only; at every use it holds by `rfl` -/
theorem Fr.of_core {m m' : Mach} (h : m' = { m.setCore m'.core with log := m'.log })
    (hheap : m'.heap.length = m.heap.length) (hds : m'.ds.length ≤ m.ds.length) : Fr m m' :=
  ⟨h ▸ rfl, h ▸ rfl, h ▸ rfl, h ▸ rfl, h ▸ rfl, h ▸ rfl, hheap, fun S _ => by omega⟩

/-- `m'` was reached from `m` by operations that logged `seg` (most recent first) and whose effect
    on the core is undone by `seg` -/
structure Rev (m m' : Mach) (seg : List RStep) : Prop where
  log : ∀ ℓ, m.log = some ℓ → m'.log = some (seg ++ ℓ)
  nolog : m.log = none → m'.log = none
  noSetIp : ∀ s ∈ seg, isSetIp s = false
  undo : undoList seg m'.core = .ok m.core
  ctx : m'.ctx = m.ctx
  wf : WF m → WF m'
  fr : Fr m m'
  /-- inside a meta block no primitive writes a variable -/
  heapMeta : m.ctx.mode = .metaEval → m'.heap = m.heap

theorem Rev.refl (m : Mach) : Rev m m [] :=
  ⟨fun _ h => by simpa using h, id, by simp, rfl, rfl, id, Fr.refl m, fun _ => rfl⟩

theorem Rev.trans {m m1 m2 : Mach} {s1 s2 : List RStep} (h1 : Rev m m1 s1) (h2 : Rev m1 m2 s2) :
    Rev m m2 (s2 ++ s1) where
  log := fun ℓ h => by rw [h2.log _ (h1.log ℓ h), List.append_assoc]
  nolog := fun h => h2.nolog (h1.nolog h)
  noSetIp := fun s hs => by
    rcases List.mem_append.mp hs with h | h
    · exact h2.noSetIp s h
    · exact h1.noSetIp s h
  undo := by rw [undoList_append _ _ _ _ h2.undo]; exact h1.undo
  ctx := h2.ctx.trans h1.ctx
  wf := fun w => h2.wf (h1.wf w)
  fr := h1.fr.trans h2.fr
  heapMeta := fun h => by rw [h2.heapMeta (by rw [h1.ctx]; exact h), h1.heapMeta h]

theorem Rev.of_ghost (m : Mach) (o : List Char) (b : Bool) : Rev m { m with out := o, aboutToStop := b } [] :=
  ⟨fun _ h => by simpa using h, id, by simp, rfl, rfl, fun w => ⟨w.ds, w.rs, w.ls, w.ss⟩,
   ⟨rfl, rfl, rfl, rfl, rfl, rfl, rfl, fun S _ => Nat.le_max_right ..⟩, fun _ => rfl⟩

theorem ex_refl (m : Mach) : ∃ seg, Rev m m seg := ⟨[], Rev.refl m⟩

@[simp] theorem logStep_core (m : Mach) (s : RStep) : (m.logStep s).core = m.core := rfl
@[simp] theorem logStep_ds (m : Mach) (s : RStep) : (m.logStep s).ds = m.ds := rfl
@[simp] theorem logStep_ctx (m : Mach) (s : RStep) : (m.logStep s).ctx = m.ctx := rfl
@[simp] theorem logStep_rs (m : Mach) (s : RStep) : (m.logStep s).rs = m.rs := rfl
@[simp] theorem logStep_loops (m : Mach) (s : RStep) : (m.logStep s).loops = m.loops := rfl
@[simp] theorem logStep_special (m : Mach) (s : RStep) : (m.logStep s).special = m.special := rfl
@[simp] theorem logStep_heap (m : Mach) (s : RStep) : (m.logStep s).heap = m.heap := rfl
@[simp] theorem logStep_stackLimit (m : Mach) (s : RStep) : (m.logStep s).stackLimit = m.stackLimit := rfl

theorem logStep_log (m : Mach) (s : RStep) (ℓ : List RStep) (h : m.log = some ℓ) :
    (m.logStep s).log = some (s :: ℓ) := by simp [logStep, h]
theorem logStep_nolog (m : Mach) (s : RStep) (h : m.log = none) : (m.logStep s).log = none := by
  simp [logStep, h]

/-- one logged write: `m'` is `m.logStep s` with some core fields replaced.  `hheap` holds by `rfl` for every primitive
    but `swap_cell_ref`, the only one that writes the heap -/
theorem Rev.mk1 (m m' : Mach) (s : RStep)
    (hlog : m'.log = (m.logStep s).log) (hs : isSetIp s = false)
    (hundo : undoC m'.core s = (.ok (), m.core)) (hctx : m'.ctx = m.ctx)
    (hwf : WF m → WF m') (hfr : Fr m m')
    (hheap : m.ctx.mode = .metaEval → m'.heap = m.heap := by intro _; rfl) : Rev m m' [s] where
  log := fun ℓ h => by rw [hlog, logStep_log m s ℓ h]; rfl
  nolog := fun h => by rw [hlog, logStep_nolog m s h]
  noSetIp := by simp [hs]
  undo := by simp [undoList, hundo]
  ctx := hctx
  wf := hwf
  fr := hfr
  heapMeta := hheap

theorem logStep_fr (m : Mach) (s : RStep) : Fr m (m.logStep s) := Fr.of_core rfl rfl (Nat.le_refl _)
theorem pushReturn_fr (m : Mach) (f : Frame) : Fr m (m.pushReturn f) := Fr.of_core rfl rfl (Nat.le_refl _)
theorem pushLoop_fr (m : Mach) (l : Loop) : Fr m (m.pushLoop l) := Fr.of_core rfl rfl (Nat.le_refl _)
theorem pushSpecial_fr (m : Mach) (p : Nat) : Fr m (m.pushSpecial p) := Fr.of_core rfl rfl (Nat.le_refl _)

theorem pushData_fr (m : Mach) (c : Cell) : Fr m (m.pushData c).2 := by
  rcases pushData_cases m c with ⟨e, h⟩ | ⟨h, hlim⟩ <;> rw [h]
  · exact Fr.refl m
  · exact ⟨rfl, rfl, rfl, rfl, rfl, rfl, rfl, fun S hS => Nat.le_trans (hlim S hS) (Nat.le_max_left ..)⟩

theorem pushData_rev (m : Mach) (c : Cell) (w : WF m) : ∃ seg, Rev m (m.pushData c).2 seg := by
  have fr := pushData_fr m c
  rcases pushData_cases m c with ⟨e, h⟩ | ⟨h, -⟩ <;> rw [h] at fr ⊢
  · exact ex_refl m
  · have h1 : m.ctx.dsLen < m.ds.length + 1 := Nat.lt_succ_of_le w.ds
    exact ⟨_, Rev.mk1 m _ .popData rfl rfl (by simp [undoC, core, h1]) rfl
      (fun w => ⟨Nat.le_succ_of_le w.ds, w.rs, w.ls, w.ss⟩) fr⟩

theorem popData_rev (m : Mach) : ∃ seg, Rev m m.popData.2 seg := by
  unfold popData
  split
  · rename_i c rest hds
    split
    · rename_i hlt
      refine ⟨_, Rev.mk1 m _ (.pushData c) rfl rfl ?_ rfl (fun w => ⟨?_, w.rs, w.ls, w.ss⟩)
        (Fr.of_core rfl rfl ?_)⟩
      · simp [undoC, core, hds]
      · simp [hds] at hlt ⊢; omega
      · simp [hds]
    · exact ex_refl m
  · exact ex_refl m

theorem swapData_rev (m : Mach) : ∃ seg, Rev m m.swapData.2 seg := by
  unfold swapData
  split
  · rename_i a b r hds
    split
    · rename_i hlt
      simp [hds] at hlt
      refine ⟨_, Rev.mk1 m _ .swapData rfl rfl ?_ rfl (fun w => ⟨?_, w.rs, w.ls, w.ss⟩)
        (Fr.of_core rfl rfl ?_)⟩
      · simp [undoC, core, hds, hlt]
      · simp; omega
      · simp [hds]
    · exact ex_refl m
  · exact ex_refl m

theorem rotData_rev (m : Mach) : ∃ seg, Rev m m.rotData.2 seg := by
  unfold rotData
  split
  · rename_i a b c r hds
    split
    · rename_i hlt
      simp [hds] at hlt
      refine ⟨_, Rev.mk1 m _ .rotData rfl rfl ?_ rfl (fun w => ⟨?_, w.rs, w.ls, w.ss⟩)
        (Fr.of_core rfl rfl ?_)⟩
      · simp [undoC, core, hds, hlt]
      · simp; omega
      · simp [hds]
    · exact ex_refl m
  · exact ex_refl m

theorem overData_rev (m : Mach) (w : WF m) : ∃ seg, Rev m m.overData.2 seg := by
  unfold overData
  split
  · rename_i a b r hds
    split
    · rename_i hlt
      simp [hds] at hlt
      have h3 : m.ctx.dsLen < r.length + 1 + 1 := by omega
      have w1 : WF (m.logStep .overData) := ⟨w.ds, w.rs, w.ls, w.ss⟩
      have r1 : Rev m (m.logStep .overData) [.overData] :=
        Rev.mk1 m _ .overData rfl rfl (by simp [undoC, core, hds, h3]) rfl (fun _ => w1) (logStep_fr m _)
      obtain ⟨seg, r2⟩ := pushData_rev (m.logStep .overData) b w1
      exact ⟨_, r1.trans r2⟩
    · exact ex_refl m
  · exact ex_refl m

theorem pushReturn_rev (m : Mach) (f : Frame) (w : WF m) : Rev m (m.pushReturn f) [.popReturn] := by
  have h1 : m.ctx.rsLen < m.rs.length + 1 := Nat.lt_succ_of_le w.rs
  exact Rev.mk1 m _ .popReturn rfl rfl (by simp [undoC, core, pushReturn, h1]) rfl
    (fun w => ⟨w.ds, Nat.le_succ_of_le w.rs, w.ls, w.ss⟩) (pushReturn_fr m f)

theorem popReturn_rev (m : Mach) : ∃ seg, Rev m m.popReturn.2 seg := by
  unfold popReturn
  split
  · rename_i f rest hrs
    split
    · rename_i hlt
      refine ⟨_, Rev.mk1 m _ (.pushReturn f) rfl rfl ?_ rfl (fun w => ⟨w.ds, ?_, w.ls, w.ss⟩)
        (Fr.of_core rfl rfl (Nat.le_refl _))⟩
      · simp [undoC, core, hrs]
      · simp [hrs] at hlt ⊢; omega
    · exact ex_refl m
  · exact ex_refl m

theorem pushLoop_rev (m : Mach) (l : Loop) (w : WF m) : Rev m (m.pushLoop l) [.popLoop] := by
  have h1 : m.ctx.lsLen < m.loops.length + 1 := Nat.lt_succ_of_le w.ls
  exact Rev.mk1 m _ .popLoop rfl rfl (by simp [undoC, core, pushLoop, h1]) rfl
    (fun w => ⟨w.ds, w.rs, Nat.le_succ_of_le w.ls, w.ss⟩) (pushLoop_fr m l)

theorem popLoop_rev (m : Mach) : ∃ seg, Rev m m.popLoop.2 seg := by
  unfold popLoop
  split
  · rename_i l rest hls
    split
    · rename_i hlt
      refine ⟨_, Rev.mk1 m _ (.pushLoop l) rfl rfl ?_ rfl (fun w => ⟨w.ds, w.rs, ?_, w.ss⟩)
        (Fr.of_core rfl rfl (Nat.le_refl _))⟩
      · simp [undoC, core, hls]
      · simp [hls] at hlt ⊢; omega
    · exact ex_refl m
  · exact ex_refl m

theorem loopNext_rev (m : Mach) : ∃ seg, Rev m m.loopNext.2 seg := by
  unfold loopNext
  split
  · rename_i l rest hls
    split
    · rename_i hlt
      simp [hls] at hlt
      have h3 : m.ctx.lsLen < rest.length + 1 := by omega
      refine ⟨_, Rev.mk1 m _ (.loopNextBack l) rfl rfl ?_ rfl (fun w => ⟨w.ds, w.rs, ?_, w.ss⟩)
        (Fr.of_core rfl rfl (Nat.le_refl _))⟩
      · simp [undoC, core, hls, h3]
      · simp; omega
    · exact ex_refl m
  · exact ex_refl m

theorem pushSpecial_rev (m : Mach) (p : Nat) (w : WF m) : Rev m (m.pushSpecial p) [.popSpecial] := by
  have h1 : m.ctx.ssPtr < m.special.length + 1 := Nat.lt_succ_of_le w.ss
  exact Rev.mk1 m _ .popSpecial rfl rfl (by simp [undoC, core, pushSpecial, h1]) rfl
    (fun w => ⟨w.ds, w.rs, w.ls, Nat.le_succ_of_le w.ss⟩) (pushSpecial_fr m p)

theorem popSpecial_rev (m : Mach) : ∃ seg, Rev m m.popSpecial.2 seg := by
  unfold popSpecial
  split
  · rename_i p rest hsp
    split
    · rename_i hlt
      refine ⟨_, Rev.mk1 m _ (.pushSpecial p) rfl rfl ?_ rfl (fun w => ⟨w.ds, w.rs, w.ls, ?_⟩)
        (Fr.of_core rfl rfl (Nat.le_refl _))⟩
      · simp [undoC, core, hsp]
      · simp [hsp] at hlt ⊢; omega
    · exact ex_refl m
  · exact ex_refl m

theorem swapCellRef_rev (m : Mach) (idx : Nat) (v : Cell) : ∃ seg, Rev m (m.swapCellRef idx v).2 seg := by
  unfold swapCellRef
  split
  · exact ex_refl m
  · split
    · rename_i old hget
      have hlt : idx < m.heap.length := by
        rcases Nat.lt_or_ge idx m.heap.length with h | h
        · exact h
        · simp [List.getElem?_eq_none h] at hget
      have hold : m.heap[idx] = old := by
        rw [List.getElem?_eq_getElem hlt] at hget; exact Option.some.inj hget
      rename_i hmode _
      refine ⟨_, Rev.mk1 m _ (.swapRef idx old) rfl rfl ?_ rfl (fun w => ⟨w.ds, w.rs, w.ls, w.ss⟩)
        (Fr.of_core rfl (by simp) (Nat.le_refl _)) (fun hm => absurd (by simp [hm]) hmode)⟩
      simp [undoC, core, hlt, ← hold]
    · exact ex_refl m

theorem setLoopItems_rev (m : Mach) (c : Cell) : ∃ seg, Rev m (m.setLoopItems c).2 seg := by
  unfold setLoopItems
  split
  · rename_i l rest hls
    split
    · rename_i hlt
      simp [hls] at hlt
      have h3 : m.ctx.lsLen < rest.length + 1 := by omega
      exact ⟨_, Rev.mk1 m _ (.loopNextBack l) rfl rfl (by simp [undoC, core, hls, h3]) rfl
        (fun w => ⟨w.ds, w.rs, by simp; omega, w.ss⟩) (Fr.of_core rfl rfl (Nat.le_refl _))⟩
    · exact ex_refl m
  · exact ex_refl m

theorem initLocalTop_rev (m : Mach) (idx : Nat) (v : Cell) : ∃ seg, Rev m (m.initLocalTop idx v).2 seg := by
  unfold initLocalTop
  split
  · rename_i f rest hrs
    split
    · rename_i hlt
      simp [hrs] at hlt
      have h3 : m.ctx.rsLen < rest.length + 1 := by omega
      exact ⟨_, Rev.mk1 m _ (.restoreLocals f.locals) rfl rfl (by simp [undoC, core, hrs, h3]) rfl
        (fun w => ⟨w.ds, by simp; omega, w.ls, w.ss⟩) (Fr.of_core rfl rfl (Nat.le_refl _))⟩
    · exact ex_refl m
  · exact ex_refl m

theorem Rev.ex_fr {m m' : Mach} (h : ∃ seg, Rev m m' seg) : Fr m m' := h.elim fun _ r => r.fr

/-- the frame needs no well-formedness: for the primitives that only pop or overwrite it is read off their `Rev` -/
theorem frWalk : Walk true Fr where
  refl := Fr.refl
  trans := Fr.trans
  prim h := by
    cases h with
    | read | cellRef | topFrame => exact Fr.refl
    | topData => exact fun m => (topData_same m).symm ▸ Fr.refl m
    | pushData c => exact (pushData_fr · c)
    | popData => exact fun m => Rev.ex_fr (popData_rev m)
    | swapData => exact fun m => Rev.ex_fr (swapData_rev m)
    | rotData => exact fun m => Rev.ex_fr (rotData_rev m)
    | overData =>
      intro m
      unfold overData
      split
      · split
        · exact (logStep_fr m _).trans (pushData_fr _ _)
        · exact Fr.refl m
      · exact Fr.refl m
    | pushSpecial p => exact (pushSpecial_fr · p)
    | popSpecial => exact fun m => Rev.ex_fr (popSpecial_rev m)
    | swapCellRef i v => exact fun m => Rev.ex_fr (swapCellRef_rev m i v)
    | setLoopItems c => exact fun m => Rev.ex_fr (setLoopItems_rev m c)
    | loopNext => exact fun m => Rev.ex_fr (loopNext_rev m)
    | initLocalTop i v => exact fun m => Rev.ex_fr (initLocalTop_rev m i v)
    | out s => exact fun m => (Rev.of_ghost m (m.out ++ s) m.aboutToStop).fr
    | stop => exact fun m => (Rev.of_ghost m m.out true).fr
    | pushReturn f => exact (pushReturn_fr · f)
    | popReturn => exact fun m => Rev.ex_fr (popReturn_rev m)
    | pushLoop l => exact (pushLoop_fr · l)
    | popLoop => exact fun m => Rev.ex_fr (popLoop_rev m)

theorem setIp_fr (m : Mach) (n : Nat) : Fr m (m.setIp n) := Fr.of_core rfl rfl (Nat.le_refl _)

theorem exec_fr (np : String → Option Prog) : ∀ m ip op, Fr m (exec np m ip op).2 :=
  exec_rel Fr Fr.trans (frWalk.execBody np) setIp_fr

theorem revWalk : Walk true fun m m' => WF m → ∃ seg, Rev m m' seg where
  refl m _ := ex_refl m
  trans h1 h2 w :=
    let ⟨_, r1⟩ := h1 w
    let ⟨_, r2⟩ := h2 (r1.wf w)
    ⟨_, r1.trans r2⟩
  prim h := by
    cases h with
    | read | cellRef | topFrame => exact fun m _ => ex_refl m
    | topData => exact fun m _ => (topData_same m).symm ▸ ex_refl m
    | pushData c => exact (pushData_rev · c)
    | popData => exact fun m _ => popData_rev m
    | swapData => exact fun m _ => swapData_rev m
    | rotData => exact fun m _ => rotData_rev m
    | overData => exact overData_rev
    | pushSpecial p => exact fun m w => ⟨_, pushSpecial_rev m p w⟩
    | popSpecial => exact fun m _ => popSpecial_rev m
    | swapCellRef i v => exact fun m _ => swapCellRef_rev m i v
    | setLoopItems c => exact fun m _ => setLoopItems_rev m c
    | loopNext => exact fun m _ => loopNext_rev m
    | initLocalTop i v => exact fun m _ => initLocalTop_rev m i v
    | out s => exact fun m _ => ⟨_, Rev.of_ghost m (m.out ++ s) m.aboutToStop⟩
    | stop => exact fun m _ => ⟨_, Rev.of_ghost m m.out true⟩
    | pushReturn f => exact fun m w => ⟨_, pushReturn_rev m f w⟩
    | popReturn => exact fun m _ => popReturn_rev m
    | pushLoop l => exact fun m w => ⟨_, pushLoop_rev m l w⟩
    | popLoop => exact fun m _ => popLoop_rev m

end Xeh.Mach
