/-
The debug map stays parallel to the code through every compiler step
(`code_emit` pushes to both, backpatching rewrites code in place, nothing else touches either).
-/
import XehModel.Proofs.CompileWalk

namespace Xeh.Compile
open CState

def Aligned (s : CState) : Prop := s.dmap.length = s.code.length

theorem emit_aligned {s : CState} (op : Op) (h : Aligned s) : Aligned (s.emit op) := by
  simp only [Aligned, emit, List.length_append, List.length_cons, List.length_nil] at *; rw [h]

theorem emitNative_aligned {s : CState} (n : String) (h : Aligned s) : Aligned (emitNative s n) := emit_aligned _ h

theorem aligned_keeps : Keeps 0 (fun _ => True) Aligned where
  mark _ := Nat.zero_le _
  emit op _ := emit_aligned op
  flows _ h := h
  patch _ _ h _ := h.trans List.length_set.symm
  dict _ h := h
  alloc h _ := h
  tok _ h := h

theorem cact_aligned (s s' : CState) (k : Kind) (h : Aligned s) (e : cact s k = .ok s') : Aligned s' :=
  ((cact_keeps aligned_keeps k (fun _ _ => trivial) (.zero h)).ok e).j

theorem compileToks_aligned (toks : List Tok) (idx : Nat) (s s' : CState) (h : Aligned s)
    (e : compileToks toks idx s = .ok s') : Aligned s' :=
  ((compileToks_keeps aligned_keeps toks idx s (fun _ _ _ => tokOk_of aligned_keeps trivial) h (orgs_zero _)).ok e).1

end Xeh.Compile
