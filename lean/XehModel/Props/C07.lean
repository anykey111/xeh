/-
C07 — binary construction is the inverse of binary parsing.

Model: Model/Cursor.lean (`step`, the construction words `uN! iN! int! uint! fN! float!`, `>bitstr`,
`emit`, `output`, `output-length`, and the read words) and Model/CursorRecord.lean (`Field`, the
words that pack a field `Field.packProg`, the matching read words `Field.parseProg`, the record's
bits `packAll`, the value a read must deliver `Field.value`).

A field list may contain integers of any width and signedness in either byte order (through the
generic `w int!`/`w int`/`w uint` words, or the fixed-width words with explicit or current byte
order — byte-order switches are therefore part of the field list, and since widths are arbitrary
fields start at every bit alignment), 32/64-bit floats, raw bit-strings, strings, byte lists and
NUL-terminated byte strings.

Domain (`Field.Ok`, `RecOk`): unsigned width ≤ 127 and signed width ≤ 128 (the read words reject
longer integers: an unsigned 128-bit value does not fit the interpreter's i128 cell), float width
32|64, byte-list elements < 256, NUL-terminated strings without embedded NUL and — because
`cstr`/`nulbytestr` refuse to read unless the remaining input is a whole number of bytes — only
at positions from which the rest of the record is a whole number of bytes.  Integer *values* are
unrestricted: any `Int` is reduced to the width (`Field.value`).

f32 values: `Field.value` is f32to64 (f64to32 x) — the value reduced to the width; the rounding itself is
Model/SoftFloat.lean (validated against hardware by the correspondence), not a theorem here.

Every theorem here that runs words assumes `s.stackLimit = none`: the round trip is stated for an interpreter without a stack limit
(a limit can refuse any push, and then the words fail as C06's `read_refused_moves_nothing` / `fail_atomic` say).
-/
import XehModel.Proofs.CursorRecordLemmas
import XehModel.Props.C05


namespace Xeh.C07
open Xeh Xeh.Cur

/-! ### number ↔ bits at the list level -/

theorem int_roundtrip_unsigned (big : Bool) (v : Int) (n : Nat) (h : n ≤ 128) :
    (toUint big (fromInt big v n) : Int) = v % 2 ^ n := by
  rw [toUint_fromInt big v n h, Bits.natCast_emod_toNat]

theorem int_roundtrip_signed (big : Bool) (v : Int) (n : Nat) (h : n ≤ 128) :
    toInt big (fromInt big v n) = sext n (v % 2 ^ n).toNat :=
  toInt_fromInt big v n h

/-- a value that fits the width comes back unchanged (signed) -/
theorem int_roundtrip_exact (big : Bool) (v : Int) (n : Nat) (h : n ≤ 128) (hn : 0 < n)
    (hv : -(2 ^ (n - 1)) ≤ v ∧ v < 2 ^ (n - 1)) :
    toInt big (fromInt big v n) = v := by
  rw [toInt_fromInt big v n h]
  exact (sext_eq n _ hn).trans (C05.sext_mod_id v n hn hv.1 hv.2)

/-! ### length = sum of the field widths -/

theorem pack_len (fs : List Field) : (packAll fs).length = (fs.map Field.width).sum := by
  induction fs with
  | nil => rfl
  | cons f fs ih => simp [packAll_cons, Field.bits_length, ih]

/-- running the fields' pack words left to right (byte-order switches included) leaves pieces whose
    `>bitstr` flattening is exactly `packAll fs`; the data stack is as before plus the result -/
theorem pack_spec (fs : List Field) (s : CurState) (hok : ∀ f ∈ fs, f.Ok) (hlim : s.stackLimit = none) :
    ∃ be cs, pieces s fs = ({ s with bigEndian := be }, .ok cs) ∧
      run { s with bigEndian := be } [.push (.vec (CellList.ofList cs)), .toBitstr] =
        ({ s with bigEndian := be, ds := .bitstr (packAll fs) :: s.ds }, .ok ()) := by
  obtain ⟨be, cs, hp, hc⟩ := pieces_spec fs s hok hlim
  exact ⟨be, cs, hp, toBitstr_vec_eval _ cs _ hc hlim⟩

/-- `>bitstr` ignores nesting: wrapping any run of pieces into a nested vector yields the same bits -/
theorem toBitstr_nested (a b c : List Cell) (x y z : List Bool)
    (ha : concatVec (CellList.ofList a) = .ok x) (hb : concatVec (CellList.ofList b) = .ok y)
    (hc : concatVec (CellList.ofList c) = .ok z) :
    bitstrConcat (.vec (CellList.ofList (a ++ [.vec (CellList.ofList b)] ++ c))) = .ok (x ++ y ++ z) ∧
    bitstrConcat (.vec (CellList.ofList (a ++ b ++ c))) = .ok (x ++ y ++ z) := by
  have hn : concatVec (CellList.ofList [.vec (CellList.ofList b)]) = .ok y := by
    simp [CellList.ofList, concatVec, concatElem, hb]
  constructor
  · exact concatVec_append _ _ _ _ (concatVec_append _ _ _ _ ha hn) hc
  · exact concatVec_append _ _ _ _ (concatVec_append _ _ _ _ ha hb) hc

/-- `a b bitstr-append` puts the top operand FIRST: the result is `b ++ a` -/
theorem bitstr_append_spec (s : CurState) (a b : List Bool) (t : List Cell)
    (hds : s.ds = .bitstr b :: .bitstr a :: t) (hlim : s.stackLimit = none) :
    step s .bitstrAppend = ({ s with ds := .bitstr (b ++ a) :: t }, .ok ()) := by
  simp [step, popBitstr, popCell, lift, hds, Cell.toBitstr, Cell.value, pushC, full, hlim]

/-! ### parse ∘ pack = id -/

/-- open the record's bits (at any buffer position `base`) and run the matching read words: no word
    fails, the values come back in order on top of the old stack, the offset is at the end
    (remain = 0), and the previously open input is suspended on the stash. -/
theorem pack_parse_inverse (fs : List Field) (s : CurState) (base : Nat) (hok : RecOk fs)
    (hbuf : base + (packAll fs).length ≤ usizeMaxN) (hlim : s.stackLimit = none) :
    ∃ be s', run s ([.push (.bitstr (packAll fs)), .openBitstr base] ++ parseAll fs) = (s', .ok ()) ∧
      s'.ds = (fs.map Field.value).reverse ++ s.ds ∧
      s'.input = packAll fs ∧ s'.pos = (packAll fs).length ∧ remainOf s' = 0 ∧
      step s' .remain = ({ s' with ds := .int 0 :: s'.ds }, .ok ()) ∧
      s'.stash = ⟨s.input, s.base, s.pos⟩ :: s.stash ∧ s'.bigEndian = be := by
  have hopen : run s [.push (.bitstr (packAll fs)), .openBitstr base] =
      ({ s with input := packAll fs, base := base, pos := 0, stash := ⟨s.input, s.base, s.pos⟩ :: s.stash }, .ok ()) := by
    rw [run_cons_ok (step_push s _), run_one, step_open rfl rfl]
  obtain ⟨be, hrun⟩ := parse_all fs
    { s with input := packAll fs, base := base, pos := 0, stash := ⟨s.input, s.base, s.pos⟩ :: s.stash }
    hok ⟨Nat.zero_le _, rfl, hbuf, hlim⟩
  refine ⟨be, _, (run_append_ok hopen).trans hrun, ?_⟩
  simp [remainOf, step, pushC, full, hlim]

/-! ### "in the same byte order" -/

/-- the byte order is a setting of the interpreter, not of the input: no word but `big` and `little` changes it —
    opening an input (`open-bitstr`, `set_binary_input`), closing one, reading, seeking, packing, emitting, a failing
    word, a change of the stack limit: after any history the order in force is the one the last `big` / `little`
    selected (seeded change C07/12 reset it when an input was opened) -/
theorem byte_order_changes_only_by_big_little (s : CurState) (ops : List POp)
    (h : ∀ op ∈ ops, op ≠ .big ∧ op ≠ .little) : (runAll s ops).bigEndian = s.bigEndian :=
  runAll_ind (P := fun t => t.bigEndian = s.bigEndian) ops s
    (fun p op hp ht => by
      have e := step_effect (runAll s p) op
      generalize step (runAll s p) op = res at e
      cases e with
      | big => exact absurd rfl (h _ (mem_of_snoc_prefix hp)).1
      | little => exact absurd rfl (h _ (mem_of_snoc_prefix hp)).2
      | _ => exact ht) rfl

/-- with interception on (`output` holds a bit-string `o`), emitting the field list in groups — for
    every way `sizes` of cutting it — appends exactly the record's bits to `output` and adds their
    number to `output-length`; nothing else changes except the byte-order variable -/
theorem emit_concat (fs : List Field) (sizes : List Nat) (s : CurState) (o : List Bool)
    (hok : ∀ f ∈ fs, f.Ok) (ho : s.output = some o)
    (hlen : s.outputLen + (packAll fs).length ≤ usizeMaxN) (hlim : s.stackLimit = none) :
    ∃ be, emitGroups s (splitBy sizes fs) =
      ({ s with bigEndian := be, output := some (o ++ packAll fs), outputLen := s.outputLen + (packAll fs).length }, .ok ()) := by
  have hflat := splitBy_flatten sizes fs
  have hok' : ∀ g ∈ splitBy sizes fs, ∀ f ∈ g, f.Ok := by
    intro g hg f hf
    apply hok
    rw [← hflat]
    exact List.mem_flatten.mpr ⟨g, hg, hf⟩
  have := emitGroups_spec (splitBy sizes fs) s o hok' ho (by rw [hflat]; exact hlen) hlim
  rw [hflat] at this
  exact this

/-- `output` / `output-length` then read back exactly that -/
theorem output_words (s : CurState) (o : List Bool) (ho : s.output = some o) (hlim : s.stackLimit = none) :
    runAll s [.output, .outputLength] = { s with ds := .int s.outputLen :: .bitstr o :: s.ds } := by
  simp [runAll, step, pushC, full, hlim, ho]

/-! ### the hypotheses are satisfiable -/

/-- a 3-bit raw field; a little-endian 13-bit signed integer, which therefore starts at bit 3 and ends on a byte
    boundary; a big-endian u16 through the fixed-width word; a NUL-terminated string, from where the rest of the record
    is whole bytes; two bytes -/
def exRecord : List Field :=
  [.raw [true, false, true], .int 13 true false .generic (-3), .int 16 false true .fixedBo 4660,
   .cstr [65, 66], .bytes [1, 2]]

example : RecOk exRecord := by
  simp only [RecOk, exRecord, Field.Ok, Field.isCstr]
  decide

example : (packAll exRecord).length = 72 := by decide

example : run CurState.boot ([.push (.bitstr (packAll exRecord)), .openBitstr 0] ++ parseAll exRecord) =
    ({ CurState.boot with
        input := packAll exRecord, pos := 72, stash := [⟨[], 0, 0⟩], bigEndian := false,
        ds := [.bitstr (bytesToBits [1, 2]), .str ['A', 'B'],
               .tagged (.int 4660) (numTags 16 true), .tagged (.int (-3)) (numTags 13 false),
               .bitstr [true, false, true]] }, .ok ()) := rfl

end Xeh.C07
