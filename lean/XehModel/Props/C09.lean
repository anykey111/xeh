/-
C09 — arithmetic, comparison and bitwise words follow exact integer / IEEE semantics.

All statements quantify over every
operand, every stack underneath (`s`) and every hidden-prefix length `h ≤ |s|` (cells below the
context's `ds_len`, which the word must not touch).

Reals: `SF.add64` … are the *definition* of IEEE-754 binary64 arithmetic used here — decode to an
exact dyadic rational, compute exactly, round to nearest even (Model/SoftFloat.lean). They are
validated against the hardware FPU by the correspondence check on every run; `real_*` theorems
state that the words apply exactly those operations to exactly their operands.
-/
import XehModel.Proofs.ArithRun
import XehModel.Proofs.ArithGood

namespace Xeh.C09
open Xeh Prog

variable (a b : Int) (s : List Cell) (h : Nat)

/-! ### + - * : exact when representable, otherwise the two's-complement wrapped value -/

theorem add_wrap (hh : h ≤ s.length) :
    wordAdd.runStack h (.int b :: .int a :: s) = .ok (.int (wrap128 (a + b)) :: s) :=
  runStack_pop2 hh ..

theorem add_exact (hh : h ≤ s.length) (hr : InRange (a + b)) :
    wordAdd.runStack h (.int b :: .int a :: s) = .ok (.int (a + b) :: s) := by
  rw [add_wrap a b s h hh, wrap128_id hr]

theorem sub_wrap (hh : h ≤ s.length) :
    wordSub.runStack h (.int b :: .int a :: s) = .ok (.int (wrap128 (a - b)) :: s) :=
  runStack_pop2 hh ..

theorem sub_exact (hh : h ≤ s.length) (hr : InRange (a - b)) :
    wordSub.runStack h (.int b :: .int a :: s) = .ok (.int (a - b) :: s) := by
  rw [sub_wrap a b s h hh, wrap128_id hr]

theorem mul_wrap (hh : h ≤ s.length) :
    wordMul.runStack h (.int b :: .int a :: s) = .ok (.int (wrap128 (a * b)) :: s) :=
  runStack_pop2 hh ..

theorem mul_exact (hh : h ≤ s.length) (hr : InRange (a * b)) :
    wordMul.runStack h (.int b :: .int a :: s) = .ok (.int (a * b) :: s) := by
  rw [mul_wrap a b s h hh, wrap128_id hr]

/-! ### / : truncating division; zero divisor and the one unrepresentable quotient are errors -/

theorem div_spec (hh : h ≤ s.length) (hb : b ≠ 0) (hr : InRange (a.tdiv b)) :
    wordDiv.runStack h (.int b :: .int a :: s) = .ok (.int (a.tdiv b) :: s) := by
  rw [wordDiv_int hh, if_neg hb, if_pos hr]

theorem div_zero (hh : h ≤ s.length) :
    wordDiv.runStack h (.int 0 :: .int a :: s) = .err .divisionByZero := by
  rw [wordDiv_int hh, if_pos rfl]

theorem div_overflow (hh : h ≤ s.length) (hb : b ≠ 0) (hr : ¬ InRange (a.tdiv b)) :
    wordDiv.runStack h (.int b :: .int a :: s) = .err .integerOverflow := by
  rw [wordDiv_int hh, if_neg hb, if_neg hr]

/-- the only unrepresentable quotient of in-range operands is `i128::MIN / -1` -/
theorem div_overflow_iff (ha : InRange a) (hbr : InRange b) (hb : b ≠ 0) :
    ¬ InRange (a.tdiv b) ↔ (a = -(2^127) ∧ b = -1) := by
  unfold InRange at *
  constructor
  · intro hn
    -- |a.tdiv b| = |a| / |b| ≤ |a| ≤ 2^127 leaves 2^127 as the only quotient out of range: then |a| = 2^127 and |b| = 1
    have h1 : (a.tdiv b).natAbs = a.natAbs / b.natAbs := Int.natAbs_tdiv a b
    have h2 : a.natAbs / b.natAbs ≤ a.natAbs := Nat.div_le_self _ _
    have hq : a.natAbs / b.natAbs = a.natAbs ∧ a = -(2^127) := by omega
    rcases Nat.div_eq_self.mp hq.1 with h0 | hb1
    · omega
    · refine ⟨hq.2, ?_⟩
      rcases Int.natAbs_eq b with e | e
      · rw [e, hb1, Int.natCast_one, Int.tdiv_one] at hn; exact absurd ha hn
      · rw [e, hb1]; rfl
  · rintro ⟨rfl, rfl⟩
    decide

/-! ### rem : sign of the dividend (truncated remainder); zero divisor is an error -/

theorem rem_spec (hh : h ≤ s.length) (hb : b ≠ 0) (hbr : InRange b) :
    wordRem.runStack h (.int b :: .int a :: s) = .ok (.int (a.tmod b) :: s) := by
  have hr : InRange (a.tmod b) := by
    unfold InRange at *
    have h1 := Int.natAbs_tmod a b
    have h2 : a.natAbs % b.natAbs < b.natAbs := Nat.mod_lt _ (by omega)
    omega
  rw [wordRem_int hh, if_neg hb, wrap128_id hr]

theorem rem_zero (hh : h ≤ s.length) :
    wordRem.runStack h (.int 0 :: .int a :: s) = .err .divisionByZero := by
  rw [wordRem_int hh, if_pos rfl]

theorem neg_exact (hh : h ≤ s.length) (hr : InRange (-a)) :
    wordNeg.runStack h (.int a :: s) = .ok (.int (-a) :: s) := by
  rw [wordNeg_int hh, if_pos hr]

theorem neg_overflow (hh : h ≤ s.length) (hr : ¬ InRange (-a)) :
    wordNeg.runStack h (.int a :: s) = .err .integerOverflow := by
  rw [wordNeg_int hh, if_neg hr]

theorem abs_exact (hh : h ≤ s.length) (hr : InRange (a.natAbs : Int)) :
    wordAbs.runStack h (.int a :: s) = .ok (.int (a.natAbs : Int) :: s) := by
  rw [wordAbs_int hh, if_pos hr]

theorem abs_overflow (hh : h ≤ s.length) (hr : ¬ InRange (a.natAbs : Int)) :
    wordAbs.runStack h (.int a :: s) = .err .integerOverflow := by
  rw [wordAbs_int hh, if_neg hr]

/-! ### min max and the six comparisons against the order of `Int` -/

theorem min_spec (hh : h ≤ s.length) :
    wordMin.runStack h (.int b :: .int a :: s) = .ok (.int (min a b) :: s) := by
  rw [Int.min_def]; exact runStack_pop2 hh ..

theorem max_spec (hh : h ≤ s.length) :
    wordMax.runStack h (.int b :: .int a :: s) = .ok (.int (max a b) :: s) := by
  rw [Int.max_def]; exact runStack_pop2 hh ..

theorem lt_spec (hh : h ≤ s.length) :
    (wordCmp (· == .lt)).runStack h (.int b :: .int a :: s) = .ok (.flag (decide (a < b)) :: s) := by
  rw [← (test_compare a b).1]; exact runStack_pop2 hh ..

theorem le_spec (hh : h ≤ s.length) :
    (wordCmp (· != .gt)).runStack h (.int b :: .int a :: s) = .ok (.flag (decide (a ≤ b)) :: s) := by
  rw [← (test_compare a b).2.1]; exact runStack_pop2 hh ..

theorem gt_spec (hh : h ≤ s.length) :
    (wordCmp (· == .gt)).runStack h (.int b :: .int a :: s) = .ok (.flag (decide (a > b)) :: s) := by
  rw [← (test_compare a b).2.2.1]; exact runStack_pop2 hh ..

theorem ge_spec (hh : h ≤ s.length) :
    (wordCmp (· != .lt)).runStack h (.int b :: .int a :: s) = .ok (.flag (decide (a ≥ b)) :: s) := by
  rw [← (test_compare a b).2.2.2.1]; exact runStack_pop2 hh ..

theorem eq_spec (hh : h ≤ s.length) :
    (wordCmp (· == .eq)).runStack h (.int b :: .int a :: s) = .ok (.flag (decide (a = b)) :: s) := by
  rw [← (test_compare a b).2.2.2.2.1]; exact runStack_pop2 hh ..

theorem ne_spec (hh : h ≤ s.length) :
    (wordCmp (· != .eq)).runStack h (.int b :: .int a :: s) = .ok (.flag (decide (a ≠ b)) :: s) := by
  rw [← (test_compare a b).2.2.2.2.2]; exact runStack_pop2 hh ..

/-! ### bitwise words: two's-complement bit operations. `toU128 x` is the 128-bit two's-complement
    pattern of `x`; the statements say that bit `i` of the result is the Boolean operation on bit `i`
    of the operands, for every bit position. -/

theorem toU128_lt (x : Int) : toU128 x < 2^128 := by unfold toU128; omega

theorem toU128_ofU128 (n : Nat) (hn : n < 2^128) : toU128 (ofU128 n) = n := by
  rw [toU128, ofU128, wrap128_mod, Int.emod_eq_of_lt (Int.natCast_nonneg n) (by exact_mod_cast hn), Int.toNat_natCast]

theorem band_spec (hh : h ≤ s.length) :
    (arithOpsInt band128).runStack h (.int b :: .int a :: s) = .ok (.int (band128 a b) :: s) :=
  arithOpsInt_int hh ..

theorem band_bits (i : Nat) :
    (toU128 (band128 a b)).testBit i = ((toU128 a).testBit i && (toU128 b).testBit i) := by
  unfold band128
  rw [toU128_ofU128 _ (Nat.and_lt_two_pow _ (toU128_lt b)), Nat.testBit_and]

theorem bor_bits (i : Nat) :
    (toU128 (bor128 a b)).testBit i = ((toU128 a).testBit i || (toU128 b).testBit i) := by
  unfold bor128
  rw [toU128_ofU128 _ (Nat.or_lt_two_pow (toU128_lt a) (toU128_lt b)), Nat.testBit_or]

theorem bxor_bits (i : Nat) :
    (toU128 (bxor128 a b)).testBit i = ((toU128 a).testBit i ^^ (toU128 b).testBit i) := by
  unfold bxor128
  rw [toU128_ofU128 _ (Nat.xor_lt_two_pow (toU128_lt a) (toU128_lt b)), Nat.testBit_xor]

theorem bnot_spec (hh : h ≤ s.length) :
    wordBnot.runStack h (.int a :: s) = .ok (.int (-a - 1) :: s) :=
  runStack_pop_cons _ _ _ _ hh

/-- `-a-1` is the bitwise complement: its pattern plus the pattern of `a` is all ones -/
theorem bnot_bits : toU128 (bnot128 a) + toU128 a = 2^128 - 1 := by
  unfold toU128 bnot128; omega

/-! ### shifts with counts 0..127 -/

theorem shiftCount_id (k : Int) (h0 : 0 ≤ k) (h1 : k ≤ 127) : shiftCount k = k.toNat := by
  rw [shiftCount, Int.emod_eq_of_lt h0 (Int.lt_of_le_of_lt h1 (by decide)),
    Int.emod_eq_of_lt h0 (Int.lt_of_le_of_lt h1 (by decide))]

theorem bsl_wrap (k : Int) (hh : h ≤ s.length) (h0 : 0 ≤ k) (h1 : k ≤ 127) :
    (arithOpsInt shl128).runStack h (.int k :: .int a :: s) = .ok (.int (wrap128 (a * 2^k.toNat)) :: s) := by
  rw [arithOpsInt_int hh, shl128, shiftCount_id k h0 h1]

theorem bsl_exact (k : Int) (hh : h ≤ s.length) (h0 : 0 ≤ k) (h1 : k ≤ 127) (hr : InRange (a * 2^k.toNat)) :
    (arithOpsInt shl128).runStack h (.int k :: .int a :: s) = .ok (.int (a * 2^k.toNat) :: s) := by
  rw [bsl_wrap a s h k hh h0 h1, wrap128_id hr]

/-- arithmetic right shift = floor division by 2^k (`Int./` is floor division for a positive divisor) -/
theorem bsr_spec (k : Int) (hh : h ≤ s.length) (h0 : 0 ≤ k) (h1 : k ≤ 127) :
    (arithOpsInt shr128).runStack h (.int k :: .int a :: s) = .ok (.int (a / 2^k.toNat) :: s) := by
  rw [arithOpsInt_int hh, shr128, shiftCount_id k h0 h1]

theorem zero_spec (hh : h ≤ s.length) :
    (wordNumTest (· == 0) SF.isZero64).runStack h (.int a :: s) = .ok (.flag (decide (a = 0)) :: s) :=
  runStack_pop_cons _ _ _ _ hh

theorem positive_spec (hh : h ≤ s.length) :
    (wordNumTest (· > 0) (fun r => SF.lt64 realZero r)).runStack h (.int a :: s) = .ok (.flag (decide (a > 0)) :: s) :=
  runStack_pop_cons _ _ _ _ hh

theorem negative_spec (hh : h ≤ s.length) :
    (wordNumTest (· < 0) (fun r => SF.lt64 r realZero)).runStack h (.int a :: s) = .ok (.flag (decide (a < 0)) :: s) :=
  runStack_pop_cons _ _ _ _ hh

/-! ### reals: the words apply exactly the IEEE operation to exactly their operands -/

variable (x y : UInt64)

theorem real_add (hh : h ≤ s.length) :
    wordAdd.runStack h (.real y :: .real x :: s) = .ok (.real (SF.add64 x y) :: s) :=
  runStack_pop2 hh ..

theorem real_sub (hh : h ≤ s.length) :
    wordSub.runStack h (.real y :: .real x :: s) = .ok (.real (SF.sub64 x y) :: s) :=
  runStack_pop2 hh ..

theorem real_mul (hh : h ≤ s.length) :
    wordMul.runStack h (.real y :: .real x :: s) = .ok (.real (SF.mul64 x y) :: s) :=
  runStack_pop2 hh ..

theorem real_div (hh : h ≤ s.length) (hz : SF.isZero64 y = false) :
    wordDiv.runStack h (.real y :: .real x :: s) = .ok (.real (SF.div64 x y) :: s) := by
  rw [wordDiv_real hh, hz]; rfl

theorem real_div_zero (hh : h ≤ s.length) (hz : SF.isZero64 y = true) :
    wordDiv.runStack h (.real y :: .real x :: s) = .err .divisionByZero := by
  rw [wordDiv_real hh, hz]; rfl

theorem real_rem (hh : h ≤ s.length) :
    wordRem.runStack h (.real y :: .real x :: s) = .ok (.real (SF.rem64 x y) :: s) :=
  runStack_pop2 hh ..

theorem real_round (hh : h ≤ s.length) :
    wordRound.runStack h (.real x :: s) = .ok (.real (SF.round64 x) :: s) :=
  runStack_pop_cons _ _ _ _ hh

theorem into_int (hh : h ≤ s.length) :
    wordIntoInt.runStack h (.real x :: s) = .ok (.int (SF.toInt64 x) :: s) :=
  (runStack_top_cons _ _ _ _ hh).trans (runStack_pop_cons _ _ _ _ hh)

theorem into_real (hh : h ≤ s.length) :
    wordIntoReal.runStack h (.int a :: s) = .ok (.real (SF.ofInt64 a) :: s) :=
  (runStack_top_cons _ _ _ _ hh).trans (runStack_pop_cons _ _ _ _ hh)

/-- `>int` never leaves the i128 range (saturating conversion) -/
theorem toInt64_inRange : InRange (SF.toInt64 x) := by
  unfold SF.toInt64
  generalize SF.D x.toNat = v
  cases v with
  | nan => decide
  | inf neg => cases neg <;> decide
  | fin neg m e => exact clamp_inRange _

/-! ### mixed int/real operands are a type error naming the left operand's actual value -/

theorem mixed_int_real (hh : h ≤ s.length) :
    wordAdd.runStack h (.real y :: .int a :: s) = .err (.typeErrorMsg (.int a) "real") :=
  runStack_pop2 hh ..

theorem mixed_real_int (hh : h ≤ s.length) :
    wordAdd.runStack h (.int b :: .real x :: s) = .err (.typeErrorMsg (.real x) "int") :=
  runStack_pop2 hh ..

/-! ### for **every** word of arith.rs and **every** stack: never a panic, and a type error quotes one
    of the two topmost cells (the cell itself or its untagged value) — never any other value -/

theorem type_error_payload_and_no_panic :
    ∀ e ∈ arithTable, ∀ st : List Cell, Good (e.2.runStack 0 st) (st.take 2) := by
  suffices h : ∀ e ∈ arithTable, Quotes True 2 [] e.2 from fun e he st => (h e he 0 st).1
  simp only [arithTable, List.forall_mem_cons, wordAdd, wordSub, wordMul, wordMin, wordMax, wordBnot, wordPopcnt,
    good_arithOpsReal, good_arithOpsInt, good_wordDiv, good_wordRem, good_wordNeg, good_wordAbs, good_wordCmp,
    good_wordLogic, good_wordNot, good_unInt, good_wordRound, good_wordIntoReal, good_wordIntoInt, good_wordNumTest,
    and_self, List.not_mem_nil, false_imp_iff, implies_true]

/-- the table really is what the driver (and therefore the correspondence check) looks words up in -/
theorem arithWord_mem (w : String) (p : Prog) (h : arithWord w = some p) : (w, p) ∈ arithTable :=
  mem_of_lookup h

/-! ### non-vacuity: the hypotheses are met by concrete non-trivial states -/

example : wordAdd.runStack 1 [.int (2^127 - 1), .int 1, .str ['x']] = .ok [.int (-(2^127)), .str ['x']] := by decide
example : ¬ InRange ((-(2^127) : Int).tdiv (-1)) := by decide
example : wordDiv.runStack 0 [.int (-1), .int (-(2^127))] = .err .integerOverflow := by decide
example : ("bsl", arithOpsInt shl128) ∈ arithTable := by simp [arithTable]
example : (arithOpsInt shl128).runStack 0 [.int 127, .int (-1)] = .ok [.int (-(2^127))] := by decide
example : wordRem.runStack 0 [.int 3, .int (-7)] = .ok [.int (-1)] := by decide

end Xeh.C09
