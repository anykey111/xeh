/-
The instruction meter and the instruction limit, without any well-formedness hypothesis: nothing but `set_insn_limit`
(outside the model's step functions) ever lowers the meter or touches the limit, a step advances the meter by at most
two (a `Resolve` is fetched twice) and never past the limit.
-/
import XehModel.Proofs.VMRev

namespace Xeh.Mach

def Keeps (m m' : Mach) : Prop := m'.meter = m.meter ∧ m'.insnLimit = m.insnLimit

structure MLe (a b : Mach) : Prop where
  limit : b.insnLimit = a.insnLimit
  mono : a.meter ≤ b.meter
  bound : ∀ N, a.insnLimit = some N → a.meter ≤ N → b.meter ≤ N

theorem MLe.triple {a b : Mach} (h : MLe a b) :
    b.insnLimit = a.insnLimit ∧ a.meter ≤ b.meter ∧ ∀ N, a.insnLimit = some N → a.meter ≤ N → b.meter ≤ N :=
  ⟨h.limit, h.mono, h.bound⟩

theorem MLe.refl (m : Mach) : MLe m m := ⟨rfl, Nat.le_refl _, fun _ _ h => h⟩
theorem MLe.trans {a b c : Mach} (h1 : MLe a b) (h2 : MLe b c) : MLe a c :=
  ⟨h2.limit.trans h1.limit, Nat.le_trans h1.mono h2.mono,
   fun N hN h => h2.bound N (h1.limit ▸ hN) (h1.bound N hN h)⟩
theorem Keeps.mle {a b : Mach} (h : Keeps a b) : MLe a b :=
  ⟨h.2, by rw [h.1]; exact Nat.le_refl _, fun N _ hm => by rw [h.1]; exact hm⟩

/-! below `step` the meter is part of the frame -/

theorem Fr.keeps {a b : Mach} (h : Fr a b) : Keeps a b := ⟨h.meter, h.insnLimit⟩

theorem popData_keeps (m : Mach) : Keeps m m.popData.2 := (frWalk.prim .popData m).keeps
theorem pushReturn_keeps (m : Mach) (f : Frame) : Keeps m (m.pushReturn f) := (pushReturn_fr m f).keeps
theorem pushLoop_keeps (m : Mach) (l : Loop) : Keeps m (m.pushLoop l) := (pushLoop_fr m l).keeps
theorem allocHeap_keeps (m : Mach) (v : Cell) : Keeps m (m.allocHeap v).2 := by
  unfold allocHeap; split <;> (try split) <;> (try split) <;> exact ⟨rfl, rfl⟩

theorem dupData_keeps' {m m1 : Mach} {o : Outcome Unit} (h : m.dupData = (o, m1)) : Keeps m m1 := by
  have := (frWalk.built .dupData m).keeps; rwa [h] at this
theorem swapData_keeps' {m m1 : Mach} {o : Outcome Unit} (h : m.swapData = (o, m1)) : Keeps m m1 := by
  have := (frWalk.prim .swapData m).keeps; rwa [h] at this
theorem rotData_keeps' {m m1 : Mach} {o : Outcome Unit} (h : m.rotData = (o, m1)) : Keeps m m1 := by
  have := (frWalk.prim .rotData m).keeps; rwa [h] at this
theorem overData_keeps' {m m1 : Mach} {o : Outcome Unit} (h : m.overData = (o, m1)) : Keeps m m1 := by
  have := (frWalk.prim .overData m).keeps; rwa [h] at this
theorem setLoopItems_keeps' {m m1 : Mach} {c : Cell} {o : Outcome Unit} (h : m.setLoopItems c = (o, m1)) : Keeps m m1 := by
  have := (frWalk.prim (.setLoopItems c) m).keeps; rwa [h] at this

theorem exec_keeps (np : String → Option Prog) (m : Mach) (ip : Nat) (op : Op) : Keeps m (exec np m ip op).2 :=
  (exec_fr np m ip op).keeps

theorem meterIncrease_mle (m : Mach) : MLe m m.meterIncrease.2 := by
  unfold meterIncrease
  split
  · rename_i lim hl
    split
    · exact MLe.refl _
    · rename_i hlt
      exact ⟨rfl, Nat.le_succ _, fun N hN _ => by rw [hl] at hN; cases hN; show m.meter + 1 ≤ lim; omega⟩
  · rename_i hl
    exact ⟨rfl, Nat.le_succ _, fun N hN _ => by rw [hl] at hN; cases hN⟩

theorem patchCode_keeps (m : Mach) (ip : Nat) (op : Op) : Keeps m (m.patchCode ip op) := by
  unfold patchCode; split <;> exact ⟨rfl, rfl⟩

theorem step_mle (np : String → Option Prog) (m : Mach) : MLe m (step np m).2 :=
  step_rel MLe MLe.trans MLe.refl meterIncrease_mle (fun m ip op => (patchCode_keeps m ip op).mle)
    (fun m ip op => (exec_keeps np m ip op).mle) m

theorem run_mle (np : String → Option Prog) : ∀ (fuel : Nat) (m : Mach) (r : R Unit),
    run np fuel m = some r → MLe m r.2 :=
  run_rel MLe MLe.refl MLe.trans fun m _ => step_mle np m

end Xeh.Mach
