/-
C12 — maps, vectors and strings obey collection laws under the language's equality.

KNOWN FINDING (DESIGN §6 #16, #20; cannot be repaired: the pinned unit test `test_let_tag` depends on
it). `Ord for Cell` returns `Equal` for every pair of cells that is not int/int, real/real or str/str.
The model reproduces that (`Cell.cmp`, Model/Collections.lean). Consequently the map laws are FALSE at
full strength — `C12_key_collision` below proves the counterexample `{ 1 "a" 2 5 }` in the model, and the
same input is replayed on the implementation by the check — and are proved here in `_partial` form under
the explicit decidable guard

    KeysComparable m probes  :=  every key stored in `m` and every probe key is an int cell,
                                 or every one of them is a string cell (tags allowed)

What is missing with respect to the full statements (the same statements without the guard; where a comment
`full:` stands next to a theorem it spells that statement out):
* keys of different types / unordered types (nil, flags, bit-strings, vectors, maps, NaN) — refuted;
* non-NaN real keys: comparable in the implementation and handled by the model and by the
  correspondence / oracle, but the lawfulness of `SF.lt64 / SF.eq64` as an order is not proved, so real
  keys are outside the proved guard.
The sequence theorems (`nth get slice reverse push collect unbox length concat join`) are full:
every `Int` index, every stack underneath, every hidden-prefix length.
-/
import XehModel.Proofs.CollGuard
import XehModel.Proofs.CollSeq
import XehModel.Proofs.CollSort

namespace Xeh.C12
open Xeh Prog Coll

/-! ## the contract `Ord for Cell` owes to rpds and to `sort` -/

/- full statement (refuted by `C12_key_collision`):
   theorem cmp_lawful : CmpLawfulOn fun c => ∀ r, c.value = .real r → SF.isNaN64 r = false -/
/-- on int cells and on string cells `cmp` is a total preorder (`oriented`, `le_trans`) whose `Equal`
    is exactly `equal?` -/
theorem cmp_lawful_partial : CmpLawfulOn IsIntCell ∧ CmpLawfulOn IsStrCell :=
  ⟨cmp_lawful_int, cmp_lawful_str⟩

/-- the counterexample to the unguarded statements: `1` and `"a"` are different values that compare
    `Equal`; the literal `{ 1 "a" 2 5 }` has one entry and `"a" get` on it returns `2`. -/
theorem C12_key_collision :
    Cell.cmp (.int 1) (.str ['a']) = .eq ∧ Cell.beq (.int 1) (.str ['a']) = false ∧
    mapLiteral [.int 1, .str ['a'], .int 2, .int 5] = .ok (.map (.cons (.int 5) (.int 2) .nil)) ∧
    wordGet.runStack 0 [.str ['a'], .map (.cons (.int 5) (.int 2) .nil)] = .ok [.int 2] :=
  ⟨by decide, by simp [beq_eq_beqVV, Cell.value, Cell.beqVV], by decide, by decide⟩

/-- hence no lawful order exists on a set containing an int and a string -/
theorem C12_not_lawful_mixed (P : Cell → Prop) (h1 : P (.int 1)) (h2 : P (.str ['a'])) : ¬ CmpLawfulOn P :=
  fun L => L.ne_of_beq_false h1 h2 C12_key_collision.2.1 C12_key_collision.1

/-! ## the words are the map operations -/

variable (s : List Cell) (h : Nat)

theorem insert_word (m : PairList) (k v : Cell) (hh : h ≤ s.length) :
    wordInsert.runStack h (k :: v :: .map m :: s) = .ok (.map (m.insert k v) :: s) :=
  (runStack_pop_cons _ _ _ _ (Nat.le_succ_of_le (Nat.le_succ_of_le hh))).trans (runStack_pop2 hh ..)

theorem remove_word (m : PairList) (k : Cell) (hh : h ≤ s.length) :
    wordRemove.runStack h (k :: .map m :: s) = .ok (.map (m.erase k) :: s) :=
  runStack_pop2 hh ..

/-- `get` on a map: the stored value, or `nil` when the key is absent -/
theorem get_map_word (m : PairList) (k : Cell) (hh : h ≤ s.length) :
    wordGet.runStack h (k :: .map m :: s) = .ok ((m.lookup k).getD .nil :: s) :=
  runStack_pop2 hh ..

/-- a tagged map is accepted like the map itself (repair 003d52a) -/
theorem insert_word_tagged (m t : PairList) (k v : Cell) (hh : h ≤ s.length) :
    wordInsert.runStack h (k :: v :: .tagged (.map m) t :: s) = .ok (.map (m.insert k v) :: s) :=
  (runStack_pop_cons _ _ _ _ (Nat.le_succ_of_le (Nat.le_succ_of_le hh))).trans (runStack_pop2 hh ..)

/-! ## map laws (guarded)

Each law is the corresponding fact about `insertL / lookupL / eraseL` (Proofs/CollMap.lean) at the set of
cells that the guard provides. -/

def SortedMap (m : PairList) : Prop := SortedKeys m.toList

/- full: theorem get_insert_same (m k v) : (m.insert k v).lookup k = some v -/
theorem get_insert_same_partial (m : PairList) (k v : Cell) (hg : KeysComparable m [k]) :
    (m.insert k v).lookup k = some v := by
  obtain ⟨P, L, _, hp⟩ := hg.elim
  rw [PairList.lookup, PairList.toList_insert]
  exact lookupL_insertL_same L v (hp k List.mem_cons_self) _

/- full: theorem get_insert_other (m k k' v) (hne : Cell.beq k' k = false) : (m.insert k v).lookup k' = m.lookup k' -/
theorem get_insert_other_partial (m : PairList) (k k' v : Cell) (hg : KeysComparable m [k, k'])
    (hne : Cell.beq k' k = false) : (m.insert k v).lookup k' = m.lookup k' := by
  obtain ⟨P, L, hin, hp⟩ := hg.elim
  have hk := hp k (by simp); have hk' := hp k' (by simp)
  rw [PairList.lookup, PairList.toList_insert]
  exact lookupL_insertL_other L v hk hk' (L.ne_of_beq_false hk' hk hne) _ hin

/- full: theorem get_remove_same (m k) : (m.erase k).lookup k = none -/
theorem get_remove_same_partial (m : PairList) (k : Cell) (hs : SortedMap m) (hg : KeysComparable m [k]) :
    (m.erase k).lookup k = none := by
  obtain ⟨P, L, hin, hp⟩ := hg.elim
  rw [PairList.lookup, PairList.toList_erase]
  exact lookupL_eraseL_same L (hp k List.mem_cons_self) _ hin hs

theorem get_remove_other_partial (m : PairList) (k k' : Cell) (hs : SortedMap m) (hg : KeysComparable m [k, k'])
    (hne : Cell.beq k' k = false) : (m.erase k).lookup k' = m.lookup k' := by
  obtain ⟨P, L, hin, hp⟩ := hg.elim
  have hk := hp k (by simp); have hk' := hp k' (by simp)
  rw [PairList.lookup, PairList.toList_erase]
  exact lookupL_eraseL_other L hk hk' (L.ne_of_beq_false hk' hk hne) _ hin hs

theorem insert_idempotent_partial (m : PairList) (k v : Cell) (hg : KeysComparable m [k]) :
    (m.insert k v).insert k v = m.insert k v := by
  obtain ⟨P, L, _, hp⟩ := hg.elim
  rw [PairList.insert, PairList.toList_insert, insertL_idem L v (hp k List.mem_cons_self)]; rfl

/-- one value per key: inserting a present key keeps the size, a new key adds one (holds unguarded) -/
theorem size_insert (m : PairList) (k v : Cell) :
    (m.insert k v).size = if (m.lookup k).isSome then m.size else m.size + 1 := by
  rw [PairList.size, PairList.toList_insert]; exact length_insertL v _

theorem size_remove (m : PairList) (k : Cell) :
    (m.erase k).size = if (m.lookup k).isSome then m.size - 1 else m.size := by
  rw [PairList.size, PairList.toList_erase]; exact length_eraseL _

/-- the representation invariant (strictly ascending keys) is kept by every operation -/
theorem sorted_insert_partial (m : PairList) (k v : Cell) (hs : SortedMap m) (hg : KeysComparable m [k]) :
    SortedMap (m.insert k v) := by
  obtain ⟨P, L, hin, hp⟩ := hg.elim
  rw [SortedMap, PairList.toList_insert]
  exact sorted_insertL L v (hp k List.mem_cons_self) _ hin hs

theorem sorted_remove (m : PairList) (k : Cell) (hs : SortedMap m) : SortedMap (m.erase k) := by
  rw [SortedMap, PairList.toList_erase]; exact sorted_eraseL _ hs

/-- the guard is kept too, so the laws chain over whole operation sequences -/
theorem guard_insert_partial (m : PairList) (k v : Cell) (probes : List Cell) (hg : KeysComparable m (k :: probes)) :
    KeysComparable (m.insert k v) (k :: probes) :=
  hg.of_keys fun p hp => by
    rw [PairList.toList_insert] at hp
    exact (mem_insertL _ p hp).symm.imp_right fun e => by rw [e]; exact List.mem_cons_self

theorem guard_remove (m : PairList) (k : Cell) (probes : List Cell) (hg : KeysComparable m probes) :
    KeysComparable (m.erase k) probes :=
  hg.of_keys fun p hp => by
    rw [PairList.toList_erase] at hp
    exact Or.inl (mem_eraseL _ p hp)

/-! ### agreement with an association list built from the same operations

`alGet k al` = value of the first entry of `al` whose key is `equal?` to `k`. A map `m` *agrees* with
an association list `al` when both answer every probe of the guarded class alike. -/

def Agrees (P : Cell → Prop) (m : PairList) (al : Entries) : Prop := ∀ k, P k → m.lookup k = alGet k al

/-- on a well-formed map, lookup *is* association-list lookup over its own entries -/
theorem lookup_eq_assoc_partial (m : PairList) (k : Cell) (hs : SortedMap m) (hg : KeysComparable m [k]) :
    m.lookup k = alGet k m.toList := by
  obtain ⟨P, L, hin, hp⟩ := hg.elim
  exact lookupL_eq_alGet L (hp k List.mem_cons_self) _ hin hs

theorem agrees_empty (P : Cell → Prop) : Agrees P .nil [] := fun _ _ => rfl

/-- insert on the map = cons on the association list -/
theorem agrees_insert_partial {P : Cell → Prop} (L : CmpLawfulOn P) (m : PairList) (al : Entries) (k v : Cell)
    (hk : P k) (hin : KeysIn P m.toList) (ha : Agrees P m al) : Agrees P (m.insert k v) ((k, v) :: al) := by
  intro k' hk'
  rw [alGet_cons, PairList.lookup, PairList.toList_insert]
  cases hb : Cell.beq k' k
  · rw [lookupL_insertL_other L v hk hk' (L.ne_of_beq_false hk' hk hb) _ hin]
    exact ha k' hk'
  · rw [lookupL_congr L hk' hk ((L.eq_iff_beq _ _ hk' hk).mpr hb) _ (keysIn_insertL v hk _ hin)]
    exact lookupL_insertL_same L v hk _

/-- the pairs of a literal, in source order: `{ v₀ k₀ v₁ k₁ … }` -/
def literalPairs : List Cell → List (Cell × Cell)
  | v :: k :: rest => (k, v) :: literalPairs rest
  | _ => []

theorem mapCollectL_eq_fold : ∀ (cells : List Cell) (acc : Entries),
    mapCollectL cells acc = (literalPairs cells).foldl (fun a p => insertL p.1 p.2 a) acc
  | [], _ => rfl
  | [_], _ => rfl
  | v :: k :: rest, acc => by simp only [mapCollectL, literalPairs, List.foldl_cons]; exact mapCollectL_eq_fold rest _

/-- a map literal is the left fold of `insert` over its pairs, starting from the empty map (unguarded) -/
theorem literal_eq_fold_insert (cells : List Cell) (he : cells.length % 2 = 0) :
    mapLiteral cells = .ok (.map ((literalPairs cells).foldl (fun m p => m.insert p.1 p.2) .nil)) := by
  rw [mapLiteral, if_neg (by simp [he]), mapCollectL_eq_fold]
  exact congrArg (fun m => Outcome.ok (Cell.map m)) (List.foldl_hom PairList.ofList
    (g₂ := fun m (p : Cell × Cell) => m.insert p.1 p.2)
    (H := fun x y => by rw [PairList.insert, PairList.toList_ofList])).symm

theorem literal_odd (cells : List Cell) (ho : cells.length % 2 = 1) :
    mapLiteral cells = .err (.controlFlow "missing key element") := by
  unfold mapLiteral mapMissingKey; simp [ho]

/-- `foreach` over a map pushes key then value of every entry exactly once, in ascending key order, and
    the entries are exactly what `get` answers (full strength needs the guard only for the last part) -/
theorem foreach_enumerates_partial (m : PairList) (hs : SortedMap m) :
    foreachItems (.map m) = .ok (m.toList.flatMap fun p => [p.1, p.2]) ∧
    m.toList.Pairwise (fun p q => Cell.cmp p.1 q.1 = .lt) ∧
    (∀ k v, KeysComparable m [k] → ((k, v) ∈ m.toList → m.lookup k = some v)) ∧
    (∀ k v, m.lookup k = some v → ∃ k', (k', v) ∈ m.toList ∧ Cell.cmp k k' = .eq) := by
  refine ⟨rfl, hs, ?_, ?_⟩
  · intro k v hg hm
    obtain ⟨P, L, hin, _⟩ := hg.elim
    exact lookupL_of_mem L _ hin hs hm
  · intro k v hl
    exact mem_of_lookupL _ hl

theorem foreach_vector (v : CellList) : foreachItems (.vec v) = .ok v.toList := rfl

/-! ## vectors and strings: every `Int` index

`pyIndex len i` / `pyNorm len i` / `pySlice l a b` (Proofs/CollSeq.lean) are Python's `l[i]` and `l[a:b]`
conventions. Operands may carry tags (`ic.value = .int i`). `hlen` states what holds of every Rust
vector / string: its length fits `isize`. -/

section seq
variable (v : CellList) (ic vc : Cell) (i : Int)

/-- `nth` with an index outside the isize range is rejected by `to_isize` -/
theorem nth_overflow (hi : ic.value = .int i) (ho : i < isizeMin ∨ isizeMax < i) (hh : h ≤ s.length) :
    wordNth.runStack h (ic :: s) = .err .integerOverflow := by
  rw [wordNth, runStack_pop_cons _ _ _ _ hh, Cell.toIsize_of_value hi, if_pos ho]; rfl

/-- `nth` inside the isize range but outside `-len .. len-1`: OutOfBounds naming the index as given -/
theorem nth_out_of_range (hi : ic.value = .int i) (hv : vc.value = .vec v) (hr : ¬ (i < isizeMin ∨ isizeMax < i))
    (hp : pyIndex v.length i = none) (hh : h ≤ s.length) :
    wordNth.runStack h (ic :: vc :: s) = .err (.outOfBounds i 0 v.length) := by
  rw [wordNth, runStack_pop_cons _ _ _ _ (Nat.le_succ_of_le hh), Cell.toIsize_of_value hi, if_neg hr, ofOutcome,
    runStack_pop_cons _ _ _ _ hh, Cell.toVec_of_value hv, ofOutcome, relativeIndex_eq_pyIndex, hp]; rfl

/-- `nth` in range: element `i` from the front, or `len + i` for a negative index -/
theorem nth_in_range (hi : ic.value = .int i) (hv : vc.value = .vec v) (hr : ¬ (i < isizeMin ∨ isizeMax < i))
    (a : Nat) (hp : pyIndex v.length i = some a) (hh : h ≤ s.length) :
    ∃ x, v.toList[a]? = some x ∧ wordNth.runStack h (ic :: vc :: s) = .ok (x :: s) := by
  have hx := List.getElem?_eq_getElem (pyIndex_lt hp : a < v.toList.length)
  refine ⟨_, hx, ?_⟩
  rw [wordNth, runStack_pop_cons _ _ _ _ (Nat.le_succ_of_le hh), Cell.toIsize_of_value hi, if_neg hr, ofOutcome,
    runStack_pop_cons _ _ _ _ hh, Cell.toVec_of_value hv, ofOutcome, relativeIndex_eq_pyIndex, hp]
  simp only [hx]; rfl

/-- `get` on a vector: an unsigned index -/
theorem get_vec_in_range (hi : ic.value = .int i) (hv : vc.value = .vec v) (h0 : 0 ≤ i) (h1 : i ≤ usizeMax)
    (x : Cell) (hx : v.toList[i.toNat]? = some x) (hh : h ≤ s.length) :
    wordGet.runStack h (ic :: vc :: s) = .ok (x :: s) := by
  rw [runStack_wordGet_vec hv hh, Cell.toUsize_of_value hi, if_neg (by omega), if_neg (by omega)]
  simp only [ofOutcome, hx]; rfl

theorem get_vec_out_of_range (hi : ic.value = .int i) (hv : vc.value = .vec v) (h0 : 0 ≤ i) (h1 : i ≤ usizeMax)
    (hx : v.toList[i.toNat]? = none) (hh : h ≤ s.length) :
    wordGet.runStack h (ic :: vc :: s) = .err (.outOfBounds i 0 v.length) := by
  rw [runStack_wordGet_vec hv hh, Cell.toUsize_of_value hi, if_neg (by omega), if_neg (by omega)]
  simp only [ofOutcome, hx, Int.toNat_of_nonneg h0]; rfl

theorem get_vec_negative (hi : ic.value = .int i) (hv : vc.value = .vec v) (h0 : i < 0) (hh : h ≤ s.length) :
    wordGet.runStack h (ic :: vc :: s) = .err (.typeErrorMsg ic "positive integer") := by
  rw [runStack_wordGet_vec hv hh, Cell.toUsize_of_value hi, if_pos h0]; rfl

theorem get_vec_overflow (hi : ic.value = .int i) (hv : vc.value = .vec v) (h1 : usizeMax < i) (hh : h ≤ s.length) :
    wordGet.runStack h (ic :: vc :: s) = .err .integerOverflow := by
  have h0 : ¬ i < 0 := fun h0 => by unfold usizeMax at h1; omega
  rw [runStack_wordGet_vec hv hh, Cell.toUsize_of_value hi, if_neg h0, if_pos h1]; rfl

/-- `slice` of a vector is Python's `l[a:b]` for EVERY pair of integers (no index is an error) -/
theorem slice_vec_spec (ac bc : Cell) (a b : Int) (ha : ac.value = .int a) (hb : bc.value = .int b)
    (hv : vc.value = .vec v) (hlen : (v.toList.length : Int) ≤ isizeMax) (hh : h ≤ s.length) :
    wordSlice.runStack h (bc :: ac :: vc :: s) = .ok (.vec (CellList.ofList (pySlice v.toList a b)) :: s) := by
  simp only [runStack_wordSlice ha hb hh, hv, sliceList_eq_pySlice _ _ _ hlen]

/-- `slice` of a string counts characters, not bytes -/
theorem slice_str_spec (ac bc sc : Cell) (cs : List Char) (a b : Int) (ha : ac.value = .int a) (hb : bc.value = .int b)
    (hv : sc.value = .str cs) (hlen : (cs.length : Int) ≤ isizeMax) (hh : h ≤ s.length) :
    wordSlice.runStack h (bc :: ac :: sc :: s) = .ok (.str (pySlice cs a b) :: s) := by
  simp only [runStack_wordSlice ha hb hh, hv, sliceList_eq_pySlice _ _ _ hlen]

/-- what `l[a:b]` contains: the elements at positions `norm a ≤ p < norm b`, in order -/
theorem slice_elements (l : List Cell) (a b : Int) (j : Nat) :
    (pySlice l a b)[j]? = if pyNorm l.length a + j < pyNorm l.length b then l[pyNorm l.length a + j]? else none :=
  pySlice_getElem? l a b j

theorem reverse_spec (hv : vc.value = .vec v) (hh : h ≤ s.length) :
    wordReverse.runStack h (vc :: s) = .ok (.vec (CellList.ofList v.toList.reverse) :: s) := by
  rw [wordReverse, runStack_pop_cons _ _ _ _ hh, Cell.toVec_of_value hv]; rfl

theorem reverse_elements (l : List Cell) (j : Nat) (hj : j < l.length) :
    l.reverse[j]? = l[l.length - 1 - j]? := List.getElem?_reverse hj

/-- `push` ( x vec -- vec' ) appends at the end -/
theorem push_spec (x : Cell) (hv : vc.value = .vec v) (hh : h ≤ s.length) :
    wordPush.runStack h (vc :: x :: s) = .ok (.vec (CellList.ofList (v.toList ++ [x])) :: s) := by
  rw [wordPush, runStack_pop_cons _ _ _ _ (Nat.le_succ_of_le hh), Cell.toVec_of_value hv, ofOutcome,
    runStack_pop_cons _ _ _ _ hh]; rfl

/-- `length`: elements of a vector, UTF-8 **bytes** of a string, bits of a bit-string -/
theorem length_vec (hv : vc.value = .vec v) (hh : h ≤ s.length) :
    wordLength.runStack h (vc :: s) = .ok (.int v.length :: s) := by
  rw [wordLength, runStack_pop_cons _ _ _ _ hh, hv]; rfl

theorem length_str (sc : Cell) (cs : List Char) (hv : sc.value = .str cs) (hh : h ≤ s.length) :
    wordLength.runStack h (sc :: s) = .ok (.int (utf8Len cs) :: s) := by
  rw [wordLength, runStack_pop_cons _ _ _ _ hh, hv]; rfl

theorem length_bitstr (bc : Cell) (bs : List Bool) (hv : bc.value = .bitstr bs) (hh : h ≤ s.length) :
    wordLength.runStack h (bc :: s) = .ok (.int bs.length :: s) := by
  rw [wordLength, runStack_pop_cons _ _ _ _ hh, hv]; rfl

/-- `unbox` pushes the elements, first element deepest -/
theorem unbox_spec (hv : vc.value = .vec v) (hh : h ≤ s.length) :
    wordUnbox.runStack h (vc :: s) = .ok (v.toList.reverse ++ s) := by
  rw [wordUnbox, runStack_pop_cons _ _ _ _ hh, Cell.toVec_of_value hv, ofOutcome, runStack_pushAll]; rfl

/-- `n collect` gathers the `n` topmost cells (deepest first) — and nothing below them -/
theorem collect_spec (xs : List Cell) (nc : Cell) (hn : nc.value = .int xs.length) (hu : (xs.length : Int) ≤ usizeMax)
    (hh : h ≤ s.length) :
    wordCollect.runStack h (nc :: (xs.reverse ++ s)) = .ok (.vec (CellList.ofList xs) :: s) := by
  have hl : (xs.reverse ++ s).length = xs.length + s.length := by simp
  rw [runStack_wordCollect hn hu (by omega), if_neg (by omega), hl, Nat.add_sub_cancel_left, List.reverse_append,
    List.reverse_reverse, List.drop_left' (List.length_reverse), ← xs.length_reverse, runStack_popN _ _ _ _ hh]
  rfl

theorem collect_underflow (nc : Cell) (n : Nat) (hn : nc.value = .int n) (hu : (n : Int) ≤ usizeMax)
    (hd : n > s.length - h) (hh : h ≤ s.length) :
    wordCollect.runStack h (nc :: s) = .err .stackUnderflow := by
  rw [runStack_wordCollect hn hu hh, if_pos hd]

/-- `unbox` followed by `length collect` gives the vector back and leaves the rest of the stack alone -/
theorem collect_unbox (hv : vc.value = .vec v) (hu : (v.length : Int) ≤ usizeMax) (hh : h ≤ s.length) :
    (wordUnbox.runStack h (vc :: s)).bind (fun st => wordCollect.runStack h (.int v.length :: st))
      = .ok (.vec v :: s) := by
  rw [unbox_spec s h v vc hv hh, Outcome.bind, collect_spec s h v.toList (.int v.length) rfl hu hh,
    CellList.ofList_toList]

/-- `concat` / `join` on a vector of strings are concatenation / `intercalate` -/
theorem concat_join_spec (ss : List (List Char)) (sep : List Char) (sc : Cell) (hsep : sc.value = .str sep)
    (hh : h ≤ s.length) :
    wordConcat.runStack h (.vec (strCells ss) :: s) = .ok (.str ss.flatten :: s) ∧
    wordJoin.runStack h (sc :: .vec (strCells ss) :: s) = .ok (.str (sep.intercalate ss) :: s) := by
  constructor
  · rw [wordConcat, runStack_pop_cons _ _ _ _ hh, Cell.toVec_of_value rfl, ofOutcome, joinCells_strs, intercalate_nil]; rfl
  · rw [wordJoin, runStack_pop_cons _ _ _ _ (Nat.le_succ_of_le hh), Cell.toStr_of_value hsep, ofOutcome,
      runStack_pop_cons _ _ _ _ hh, Cell.toVec_of_value rfl, ofOutcome, joinCells_strs]; rfl

theorem sort_word (hv : vc.value = .vec v) (hh : h ≤ s.length) :
    wordSort.runStack h (vc :: s) = .ok (.vec (CellList.ofList (sortL v.toList)) :: s) := by
  rw [wordSort, runStack_pop_cons _ _ _ _ hh, Cell.toVec_of_value hv]; rfl

/- full: for pairwise comparable elements of any of the three classes (non-NaN reals included) -/
/-- `sort` of all-int or all-string elements (tags allowed) is an ascending permutation of the input;
    the permutation part holds for every input -/
theorem sort_sorted_perm_partial (l : List Cell) (hg : keysComparable l = true) :
    Ascending (sortL l) ∧ (sortL l).Perm l := by
  obtain ⟨P, L, hP⟩ := keysComparable_elim hg
  exact ⟨sortL_ascending L l hP, sortL_perm l⟩

theorem sort_perm (l : List Cell) : (sortL l).Perm l := sortL_perm l

end seq

example : wordCollect.runStack 0 [.int 2, .int 20, .int 10, .nil] = .ok [.vec (.cons (.int 10) (.cons (.int 20) .nil)), .nil] := by decide
example : wordCollect.runStack 0 [.int 5, .int 2, .int 1] = .err .stackUnderflow := by decide
example : wordCollect.runStack 1 [.int 2, .int 2, .int 1] = .err .stackUnderflow := by decide

example : KeysComparable (.cons (.int 1) (.str ['x']) (.cons (.tagged (.int 3) .nil) .nil .nil)) [.int 2, .int 3] := by decide
example : KeysComparable (.cons (.str ['a']) (.int 1) .nil) [.str ['b']] := by decide
example : ¬ KeysComparable (.cons (.str ['a']) (.int 1) .nil) [.int 5] := by decide
example : SortedMap (.cons (.int 1) .nil (.cons (.int 3) .nil .nil)) := by
  simp [SortedMap, SortedKeys, PairList.toList]; decide
example : (PairList.nil.insert (.int 3) (.str ['c'])).insert (.int 1) .nil
    = .cons (.int 1) .nil (.cons (.int 3) (.str ['c']) .nil) := by decide
example : pyIndex 3 (-1) = some 2 ∧ pyIndex 3 3 = none ∧ pyIndex 3 (-4) = none ∧ pyIndex 0 0 = none := by decide
example : pySlice [1, 2, 3, 4] (-3) (2^64) = [2, 3, 4] ∧ pySlice [1, 2, 3, 4] (-(2^127)) (-1) = [1, 2, 3] ∧ pySlice [1, 2, 3] 2 1 = [] := by decide
example : wordNth.runStack 0 [.int (-(2^63) - 1), .vec (.cons (.int 7) .nil)] = .err .integerOverflow := by decide
example : wordNth.runStack 0 [.int (-(2^63)), .vec (.cons (.int 7) .nil)] = .err (.outOfBounds (-(2^63)) 0 1) := by decide
example : wordSlice.runStack 1 [.int (2^127 - 1), .int (-(2^127)), .str ['a', 'é'], .nil] = .ok [.str ['a', 'é'], .nil] := by decide
example : keysComparable [.int 3, .tagged (.int 1) .nil, .int 2] = true := by decide
example : sortL [.int 3, .tagged (.int 1) .nil, .int 2] = [.tagged (.int 1) .nil, .int 2, .int 3] := by decide
example : literalPairs [.int 1, .str ['a'], .int 2, .int 5] = [(.str ['a'], .int 1), (.int 5, .int 2)] := rfl

end Xeh.C12
