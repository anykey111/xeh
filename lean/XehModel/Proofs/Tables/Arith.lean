/-
Tie B, tables (DESIGN §4.2) — the operator table of arith.rs and the words it registers (method: Proofs/LeafTables.lean).
-/
import XehModel.Generated.Tables
import XehModel.Model.Arith

namespace Xeh.LeafBridge
open Xeh.Generated

/-- arith.rs, word by word: which Rust operation implements the integer arm and which the real arm
    (next to the model words of Model/Arith.lean: `wordAdd` = `wrap128 (a + b)` ↔ `wrapping_add`,
    `wordDiv` = zero test, `tdiv`, range test ↔ `== 0 DivisionByZero checked_div IntegerOverflow`,
    `wordRem` ↔ `wrapping_rem`, `wordNeg`/`wordAbs` ↔ `checked_neg`/`checked_abs`, `shl128`/`shr128`
    with `shiftCount` ↔ `wrapping_shl/shr(a, b as u32)`, …); last the shared helpers: operands are
    popped right then left, the integer arm is taken on the *right* operand's type, `ops(a, b)`
    keeps the operand order. -/
def expectedArithOps : List (String × String) := [
  ("+", "int: wrapping_add real: Add::add"),
  ("-", "int: wrapping_sub real: Sub::sub"),
  ("*", "int: wrapping_mul real: Mul::mul"),
  ("/", "int: to_xint == 0 DivisionByZero checked_div IntegerOverflow real: to_real == 0.0 DivisionByZero /"),
  ("neg", "int: checked_neg IntegerOverflow real: neg"),
  ("abs", "int: checked_abs IntegerOverflow real: abs"),
  ("<", "int: to_xint cmp real: to_real compare_reals() then: is_lt"),
  ("<=", "int: to_xint cmp real: to_real compare_reals() then: is_le"),
  (">", "int: to_xint cmp real: to_real compare_reals() then: is_gt"),
  (">=", "int: to_xint cmp real: to_real compare_reals() then: is_ge"),
  ("==", "int: to_xint cmp real: to_real compare_reals() then: is_eq"),
  ("<>", "int: to_xint cmp real: to_real compare_reals() then: is_ne"),
  ("rem", "int: to_xint == 0 DivisionByZero wrapping_rem real: to_real %"),
  ("and", "to_bool & to_bool"),
  ("or", "to_bool | to_bool"),
  ("xor", "to_bool ^ to_bool"),
  ("not", "to_bool not"),
  ("band", "int: BitAnd::bitand"),
  ("bor", "int: BitOr::bitor"),
  ("bxor", "int: BitXor::bitxor"),
  ("bnot", "to_xint not"),
  ("bsl", "int: wrapping_shl as u32"),
  ("bsr", "int: wrapping_shr as u32"),
  ("round", "to_real round"),
  ("random", "getrandom::getrandom u32::from_le_bytes as Xreal / u32::MAX as Xreal"),
  ("min", "int: min real: min"),
  ("max", "int: max real: max"),
  (">real", "to_xint as Xreal"),
  (">int", "to_real as Xint"),
  ("zero?", "int: == 0 real: == 0.0"),
  ("positive?", "int: > 0 real: > 0.0"),
  ("negative?", "int: < 0 real: < 0.0"),
  ("popcnt", "to_xint count_ones"),
  ("fn arithmetic_ops_int", "to_xint to_xint ops_int(a,b)"),
  ("fn arithmetic_ops_real", "int: to_xint ops_int(a,*b) real: to_real ops_real(a,*b)"),
  ("fn compare_cells", "int: to_xint cmp real: to_real compare_reals()"),
  ("fn compare_reals", "< Ordering::Less > Ordering::Greater Ordering::Equal")
]

theorem arith_table_matches : src_arith = expectedArithOps := rfl

/-- the words arith.rs registers (all non-immediate), in registration order -/
def expectedArithWords : List String := [
  "+", "-", "*", "/", "neg", "abs", "<", "<=", ">", ">=",
  "==", "<>", "rem", "and", "or", "xor", "not", "band", "bor", "bxor",
  "bnot", "bsl", "bsr", "round", "random", "min", "max", ">real", ">int", "zero?",
  "positive?", "negative?", "popcnt"
]

theorem arith_words_match : src_arith_words = expectedArithWords := rfl

/-- Model/Arith.lean has the registered words but `random` (entry 24; not modelled), and lists `rem` (entry 12)
    right after `/`. By position: no word is compared letter by letter. -/
theorem arithTable_words :
    Xeh.arithTable.map (·.1) = ((expectedArithWords.eraseIdx 24).eraseIdx 12).insertIdx 4 "rem" := rfl

theorem mem_eraseIdx_or {α : Type} {a : α} : ∀ {l : List α} (k : Nat), a ∈ l → l[k]? = some a ∨ a ∈ l.eraseIdx k
  | b :: l, 0, h => by
    rcases List.mem_cons.mp h with rfl | h
    · exact .inl rfl
    · exact .inr h
  | b :: l, k + 1, h => by
    rcases List.mem_cons.mp h with rfl | h
    · exact .inr List.mem_cons_self
    · exact (mem_eraseIdx_or k h).imp id (List.mem_cons_of_mem b)

theorem arith_words_registered : ∀ w ∈ Xeh.arithTable.map (·.1), w ∈ src_arith_words := by
  rw [arith_words_match, arithTable_words]
  intro w hw
  rcases (List.mem_insertIdx (by decide)).mp hw with rfl | hw
  · exact List.mem_of_getElem? (i := 12) rfl
  · exact List.mem_of_mem_eraseIdx (List.mem_of_mem_eraseIdx hw)

theorem arith_words_modelled :
    ∀ w ∈ src_arith_words, w = "random" ∨ w ∈ Xeh.arithTable.map (·.1) := by
  rw [arith_words_match, arithTable_words]
  intro w hw
  rcases mem_eraseIdx_or 24 hw with h | hw
  · exact .inl (Option.some.inj h).symm
  · refine .inr ((List.mem_insertIdx (by decide)).mpr ?_)
    rcases mem_eraseIdx_or 12 hw with h | hw
    · exact .inl (Option.some.inj h).symm
    · exact .inr hw

end Xeh.LeafBridge
