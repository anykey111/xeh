/-
What structural evaluation leaves alone. No data-stack primitive, native word or straight-line opcode touches
the marks of the context, pushes or pops a frame or a loop record (`local` changes the locals of the top frame, a `foreach`
step the top loop record): `Stays`. Only a call pushes a frame, and pops it when the callee ends; a counted loop pushes one
record and pops it when it ends, normally or by `break`. So what a statement hands on `Stays`: `ends_aux`, which shows it
together with which results the context of a statement allows, since the one needs the other.
-/
import XehModel.Proofs.StructEval
import XehModel.Proofs.VMPre

namespace Xeh.Structured
open Xeh Xeh.Mach

def SameBelow (a b : List Loop) : Prop := a.length = b.length ∧ a.tail = b.tail

theorem SameBelow.refl (a : List Loop) : SameBelow a a := ⟨rfl, rfl⟩
theorem SameBelow.trans {a b c : List Loop} (h1 : SameBelow a b) (h2 : SameBelow b c) : SameBelow a c :=
  ⟨h1.1.trans h2.1, h1.2.trans h2.2⟩

/-- the top frame up to its locals: its return address is intact, which is what `;` relies on -/
def SameFrames (a b : List Frame) : Prop :=
  a.length = b.length ∧ a.tail = b.tail ∧
    (a.head?.map fun f => (f.fnAddr, f.returnTo)) = (b.head?.map fun f => (f.fnAddr, f.returnTo))

theorem SameFrames.refl (a : List Frame) : SameFrames a a := ⟨rfl, rfl, rfl⟩
theorem SameFrames.trans {a b c : List Frame} (h1 : SameFrames a b) (h2 : SameFrames b c) : SameFrames a c :=
  ⟨h1.1.trans h2.1, h1.2.1.trans h2.2.1, h1.2.2.trans h2.2.2⟩

structure Stays (m m' : Mach) : Prop where
  ctx : m'.ctx = m.ctx
  rs : SameFrames m'.rs m.rs
  loops : SameBelow m'.loops m.loops

theorem Stays.refl (m : Mach) : Stays m m := ⟨rfl, .refl _, .refl _⟩
theorem Stays.trans {a b c : Mach} (h1 : Stays a b) (h2 : Stays b c) : Stays a c :=
  ⟨h2.ctx.trans h1.ctx, h2.rs.trans h1.rs, h2.loops.trans h1.loops⟩

theorem stays_log (m : Mach) (s : RStep) : Stays m (m.logStep s) := ⟨rfl, .refl _, .refl _⟩

/-- what the primitives do to call frames and loop records, those apart that push or pop one -/
theorem staysWalk : Walk false Stays where
  refl := Stays.refl
  trans := Stays.trans
  prim h := by
    cases h with
    | read | cellRef | topFrame | pushSpecial | out | stop => exact fun m => ⟨rfl, .refl _, .refl _⟩
    | topData => exact fun m => (topData_same m).symm ▸ .refl m
    | pushData c => intro m; simp only [pushData]; split <;> (try split) <;> exact ⟨rfl, .refl _, .refl _⟩
    | popData => intro m; simp only [popData]; split <;> (try split) <;> exact ⟨rfl, .refl _, .refl _⟩
    | swapData => intro m; simp only [swapData]; split <;> (try split) <;> exact ⟨rfl, .refl _, .refl _⟩
    | rotData => intro m; simp only [rotData]; split <;> (try split) <;> exact ⟨rfl, .refl _, .refl _⟩
    | overData =>
      intro m; simp only [overData]; split <;> (try split) <;> try exact ⟨rfl, .refl _, .refl _⟩
      refine .trans (stays_log m .overData) ?_
      simp only [pushData]; split <;> (try split) <;> exact ⟨rfl, .refl _, .refl _⟩
    | popSpecial => intro m; simp only [popSpecial]; split <;> (try split) <;> exact ⟨rfl, .refl _, .refl _⟩
    | swapCellRef i v => intro m; simp only [swapCellRef]; split <;> (try split) <;> exact ⟨rfl, .refl _, .refl _⟩
    | setLoopItems c =>
      intro m; simp only [setLoopItems]; split <;> (try split) <;> try exact ⟨rfl, .refl _, .refl _⟩
      rename_i hl _; exact ⟨rfl, .refl _, by simp only [logStep, hl]; exact ⟨rfl, rfl⟩⟩
    | loopNext =>
      intro m; simp only [loopNext]; split <;> (try split) <;> try exact ⟨rfl, .refl _, .refl _⟩
      rename_i hl _; exact ⟨rfl, .refl _, by simp only [logStep, hl]; exact ⟨rfl, rfl⟩⟩
    | initLocalTop i v =>
      intro m; simp only [initLocalTop]; split <;> (try split) <;> try exact ⟨rfl, .refl _, .refl _⟩
      rename_i hl _; exact ⟨rfl, by simp only [logStep, hl]; exact ⟨rfl, rfl, rfl⟩, .refl _⟩

theorem loopNext_stays (m : Mach) : Stays m m.loopNext.2 := staysWalk.prim .loopNext m

theorem doInit_stays (m : Mach) : Stays m m.doInit.2 ∧ m.doInit.2.loops = m.loops := by
  have bind {α β : Type} {m : Mach} {x : R α} {K : α → Mach → R β} :=
    @bindR_rel (fun a b => Stays a b ∧ b.loops = a.loops) (fun h1 h2 => ⟨h1.1.trans h2.1, h2.2.trans h1.2⟩) α β m x K
  have pop : ∀ m : Mach, Stays m m.popData.2 ∧ m.popData.2.loops = m.loops := fun m =>
    ⟨staysWalk.prim .popData m, by simp only [popData]; split <;> (try split) <;> rfl⟩
  rw [doInit_eq]
  exact bind (pop m) fun _ m => bind (pop m) fun _ m => bind ⟨.refl m, rfl⟩ fun _ m => bind ⟨.refl m, rfl⟩ fun _ m =>
    ⟨.refl m, rfl⟩

/-- an operation that is what an opcode does before it moves the ip leaves the machine where that opcode's body does -/
theorem stays_of_execBody {np : String → Option Prog} {m : Mach} {ip : Nat} {op : Op} {α : Type} {x : R α} {d : α → Dest}
    (h : execBody np m ip op = bindR x fun a m => (.ok (d a), m)) (hf : flat op = true) : Stays m x.2 := by
  have hs := staysWalk.execBody_flat np m ip hf
  rw [h] at hs
  rcases R.cases x with ⟨a, m1, e⟩ | ⟨_, m1, e⟩ | ⟨_, m1, e⟩ <;> subst e <;> exact hs

theorem popCond_stays (m : Mach) : Stays m (popCond m).2 :=
  stays_of_execBody (execBody_jumpIfNot (fun _ => none) m 0 0) rfl

theorem caseTest_stays (m : Mach) : Stays m (caseTest m).2 :=
  stays_of_execBody (execBody_caseOf (fun _ => none) m 0 0) rfl

theorem straightEff_stays (np : String → Option Prog) (m : Mach) {o : Op} (hs : straight o = true) :
    Stays m (straightEff np m o).2 :=
  stays_of_execBody (execBody_straight np m 0 hs) (by cases o <;> first | rfl | cases hs)

theorem popReturn_ok {m m' : Mach} {f : Frame} (h : m.popReturn = (.ok f, m')) :
    m'.ctx = m.ctx ∧ m'.rs = m.rs.tail ∧ m.rs.head? = some f ∧ m'.loops = m.loops := by
  simp only [popReturn] at h
  split at h
  · rename_i f0 rest hl
    split at h
    · cases h; simp [logStep, hl]
    · cases h
  · cases h

theorem popLoop_ok {m m' : Mach} {l : Loop} (h : m.popLoop = (.ok l, m')) :
    m'.ctx = m.ctx ∧ m'.rs = m.rs ∧ m'.loops = m.loops.tail := by
  simp only [popLoop] at h
  split at h
  · rename_i l0 rest hl
    split at h
    · cases h; simp [logStep, hl]
    · cases h
  · cases h

theorem Stays.popReturn {m m2 m' : Mach} {fr fr' : Frame} (h : Stays (m.pushReturn fr) m2) (hp : m2.popReturn = (.ok fr', m')) :
    Stays m m' ∧ fr'.returnTo = fr.returnTo := by
  obtain ⟨hc, hr, hh, hl⟩ := popReturn_ok hp
  have h3 := h.rs.2.2
  rw [hh] at h3
  simp only [pushReturn, logStep, List.head?_cons, Option.map_some, Option.some.injEq, Prod.mk.injEq] at h3
  refine ⟨⟨hc.trans h.ctx, ?_, hl ▸ h.loops⟩, h3.2⟩
  rw [hr, h.rs.2.1]
  exact .refl _

theorem Stays.popLoop {m m1 m' : Mach} {l l' : Loop} (h : Stays (m.pushLoop l) m1) (hp : m1.popLoop = (.ok l', m')) :
    Stays m m' ∧ m'.loops = m.loops := by
  obtain ⟨hc, hr, hl⟩ := popLoop_ok hp
  have : m'.loops = m.loops := by rw [hl, h.loops.2]; rfl
  exact ⟨⟨hc.trans h.ctx, hr ▸ h.rs, this ▸ .refl _⟩, this⟩

/-- How a statement may end. A `break` travels only where a loop is open for it (`k`), a finished arm leaves only the spine of a
    `case` (`c`), and the machine handed on `Stays`. The first two hold of any function table, the last only across calls of
    well-formed definitions; so `fw` stands before `Stays` alone, and one induction (`ends_aux`) gives both: with `fw := FW F`
    all three, with `fw := False` which results are possible. -/
def Ends (fw : Prop) (k c : Bool) (m : Mach) : Res → Prop
  | .ok m' => fw → Stays m m'
  | .brk _ m' => k = true ∧ (fw → Stays m m')
  | .exitCase m' => c = true ∧ (fw → Stays m m')
  | _ => True

namespace Ends
variable {fw fw' : Prop} {k c k' c' : Bool} {m m0 : Mach} {r : Res}

theorem ok (m : Mach) : Ends fw k c m (.ok m) := fun _ => .refl m
theorem brk (hk : k = true) (t : Nat) (m : Mach) : Ends fw k c m (.brk t m) := ⟨hk, fun _ => .refl m⟩
theorem exit (hc : c = true) (m : Mach) : Ends fw k c m (.exitCase m) := ⟨hc, fun _ => .refl m⟩

theorem top (r : Res) : Ends False true true m r := by
  cases r with
  | ok _ => exact False.elim
  | brk _ _ => exact ⟨rfl, False.elim⟩
  | exitCase _ => exact ⟨rfl, False.elim⟩
  | _ => trivial

theorem noBrk (h : Ends fw false c m r) : NoBrk r := fun _ _ e => by subst e; cases h.1

theorem noExit (h : Ends fw k false m r) : NoExit r := fun _ e => by subst e; cases h.1

theorem mono (h : Ends fw k c m r) (hf : fw' → fw) (hk : k = true → k' = true) (hc : c = true → c' = true) :
    Ends fw' k' c' m r := by
  cases r with
  | ok _ => exact fun w => h (hf w)
  | brk _ _ => exact ⟨hk h.1, fun w => h.2 (hf w)⟩
  | exitCase _ => exact ⟨hc h.1, fun w => h.2 (hf w)⟩
  | _ => trivial

/-- after a stretch that `Stays` -/
theorem after (hs : fw → Stays m0 m) (h : Ends fw k c m r) : Ends fw k c m0 r := by
  cases r with
  | ok _ => exact fun w => (hs w).trans (h w)
  | brk _ _ => exact ⟨h.1, fun w => (hs w).trans (h.2 w)⟩
  | exitCase _ => exact ⟨h.1, fun w => (hs w).trans (h.2 w)⟩
  | _ => trivial

theorem next {ok : Mach → Res} {brk : Nat → Mach → Res} {exit : Mach → Res} (h : Ends fw k c m r)
    (hok : ∀ m1, r = .ok m1 → Ends fw k' c' m1 (ok m1)) (hbrk : k = true → ∀ t m1, Ends fw k' c' m1 (brk t m1))
    (hexit : c = true → ∀ m1, Ends fw k' c' m1 (exit m1)) : Ends fw k' c' m (r.next ok brk exit) := by
  cases r with
  | ok m1 => exact (hok m1 rfl).after h
  | brk t m1 => exact (hbrk h.1 t m1).after h.2
  | exitCase m1 => exact (hexit h.1 m1).after h.2
  | _ => trivial

theorem ofR {α : Type} {x : R α} {t : Nat} {kont : α → Mach → Res} (hx : fw → Stays m x.2)
    (hk : ∀ a m1, x = (.ok a, m1) → Ends fw k c m1 (kont a m1)) : Ends fw k c m (Structured.ofR x t kont) := by
  rcases R.cases x with ⟨a, m1, e⟩ | ⟨_, m1, e⟩ | ⟨_, m1, e⟩ <;> subst e
  · exact (hk a m1 rfl).after hx
  · trivial
  · trivial

end Ends

def FW (F : FunTab) : Prop := ∀ addr body ts, F addr = some (body, ts) → WFS body false false = true

/-- The iterations of a counted loop absorb every `break`, and let a finished arm through only if the body is ill-formed; they keep
    marks, return stack and loop stack until they end by popping the loop's record. -/
theorem ends_aux (np : String → Option Prog) (F : FunTab) : ∀ f,
    (∀ st m k c, WFS st k c = true → Ends (FW F) k c m (evalS np F f st m)) ∧
    (∀ tl a m, Ends False false (!WFS a true false) m (doIter np F f tl a m) ∧
      (FW F → WFS a true false = true → ∀ m', doIter np F f tl a m = .ok m' → ∃ m1 l, Stays m m1 ∧ m1.popLoop = (.ok l, m'))) := by
  intro f
  induction f with
  | zero =>
    exact ⟨fun st m _ _ _ => by rw [evalS_zero]; trivial,
      fun tl a m => by rw [doIter_zero]; exact ⟨trivial, fun _ _ _ h => nomatch h⟩⟩
  | succ f ih =>
    obtain ⟨ihE, ihD⟩ := ih
    refine ⟨fun st m k c hw => ?_, fun tl a m => ?_⟩
    · cases st with
      | skip => rw [evalS_skip]; exact .ok m
      | op t o => rw [evalS_op]; exact .ofR (fun _ => straightEff_stays np m hw) fun _ m1 _ => .ok m1
      | seq a b =>
        simp only [WFS, Bool.and_eq_true] at hw
        rw [evalS_seq]
        exact (ihE a m k c hw.1).next (fun m1 _ => ihE b m1 k c hw.2) .brk .exit
      | ifThen t a =>
        rw [evalS_ifThen]
        refine .ofR (fun _ => popCond_stays m) fun b m1 _ => ?_
        split
        · exact (ihE a m1 k false hw).mono id id nofun
        · exact .ok m1
      | ifElse t te a b =>
        simp only [WFS, Bool.and_eq_true] at hw
        rw [evalS_ifElse]
        refine .ofR (fun _ => popCond_stays m) fun _ m1 _ => ?_
        split
        · exact (ihE a m1 k false hw.1).mono id id nofun
        · exact (ihE b m1 k false hw.2).mono id id nofun
      | untilLoop t a =>
        rw [evalS_until]
        refine (ihE a m false false hw).next (fun m1 _ => .ofR (fun _ => popCond_stays m1) fun b m2 _ => ?_) nofun nofun
        split
        · exact .ok m2
        · exact ihE _ m2 k c hw
      | whileLoop tw tr cnd a =>
        have hw' := hw
        simp only [WFS, Bool.and_eq_true] at hw'
        rw [evalS_while]
        refine (ihE cnd m false false hw'.1).next (fun m1 _ => .ofR (fun _ => popCond_stays m1) fun b m2 _ => ?_) nofun nofun
        split
        · exact (ihE a m2 true false hw'.2).next (fun m3 _ => ihE _ m3 k c hw) (fun _ _ m3 => .ok m3) nofun
        · exact .ok m2
      | repeatLoop tr a =>
        rw [evalS_repeat]
        exact (ihE a m true false hw).next (fun m1 _ => ihE _ m1 k c hw) (fun _ _ m1 => .ok m1) nofun
      | doLoop td tl a =>
        rw [evalS_do]
        refine .ofR (fun _ => (doInit_stays m).1) fun l m1 _ => ?_
        split
        · -- the iterations run on the stack with the record pushed and end with it popped
          obtain ⟨hin, hk⟩ := ihD tl a (m1.pushLoop l)
          rw [show WFS a true false = true from hw] at hin
          cases hd : doIter np F f tl a (m1.pushLoop l) with
          | ok m2 =>
            intro w
            obtain ⟨mx, lx, hs, hp⟩ := hk w hw m2 hd
            exact (hs.popLoop hp).1
          | brk t m2 => rw [hd] at hin; cases hin.1
          | exitCase m2 => rw [hd] at hin; cases hin.1
          | _ => trivial
        · exact .ok m1
      | brk t => rw [evalS_brk]; exact .brk hw t m
      | caseS a =>
        rw [evalS_caseS]
        exact (ihE a m k true hw).next (fun m1 _ => .ok m1) .brk (fun _ m1 => .ok m1)
      | arm tOf tEndof body =>
        simp only [WFS, Bool.and_eq_true] at hw
        rw [evalS_arm]
        refine .ofR (fun _ => caseTest_stays m) fun hit m1 _ => ?_
        split
        · exact (ihE body m1 k false hw.2).next (fun m2 _ => .exit hw.1 m2) .brk nofun
        · exact .ok m1
      | defn tc ts body => rw [evalS_defn]; exact .ok m
      | call t addr ret =>
        cases hF : F addr with
        | none => rw [evalS_call_none np F f m t addr ret hF]; trivial
        | some p =>
          rw [evalS_call np F f m t addr ret (body := p.1) (ts := p.2) hF]
          cases hr : evalS np F f p.1 (m.pushReturn { fnAddr := addr, returnTo := ret, locals := [] }) with
          | ok m2 =>
            refine ofR_cases (P := Ends (FW F) k c m) _ _ _ (fun fr m3 hp w => ?_) (fun _ _ _ => trivial) (fun _ _ _ => trivial)
            have hb := ihE p.1 (m.pushReturn { fnAddr := addr, returnTo := ret, locals := [] }) false false (w addr p.1 p.2 hF)
            rw [hr] at hb
            exact ((hb w).popReturn hp).1
          | _ => trivial
    · rw [doIter_succ]
      constructor
      · have ha : Ends False true (!WFS a true false) m (evalS np F f a m) := by
          cases hw : WFS a true false with
          | true => exact (ihE a m true false hw).mono nofun id id
          | false => exact .top _
        refine ha.next (fun m1 _ => .ofR nofun fun more m2 _ => ?_) (fun _ _ _ => .ofR nofun fun _ _ _ => .ok _) .exit
        split
        · exact (ihD tl a m2).1
        · exact .ofR nofun fun _ _ _ => .ok _
      · intro w hw m' hd
        have ha := ihE a m true false hw
        cases hr : evalS np F f a m with
        | ok m1 =>
          rw [hr] at hd ha
          obtain ⟨more, m2, hn, hd⟩ := ofR_eq_ok hd
          have h2 : Stays m m2 := (ha w).trans (by have := loopNext_stays m1; rwa [hn] at this)
          cases more with
          | true =>
            obtain ⟨mx, l, hs, hp⟩ := (ihD tl a m2).2 w hw m' hd
            exact ⟨mx, l, h2.trans hs, hp⟩
          | false =>
            obtain ⟨l, m3, hp, h3⟩ := ofR_eq_ok hd
            cases h3
            exact ⟨m2, l, h2, hp⟩
        | brk tb m1 =>
          rw [hr] at hd ha
          obtain ⟨l, m3, hp, h3⟩ := ofR_eq_ok hd
          cases h3
          exact ⟨m1, l, ha.2 w, hp⟩
        | _ => rw [hr] at hd; cases hd

theorem no_brk_aux (np : String → Option Prog) (F : FunTab) : ∀ f,
    (∀ st m r, WFS st false r = true → NoBrk (evalS np F f st m)) ∧ (∀ tl a m, NoBrk (doIter np F f tl a m)) :=
  fun f => ⟨fun st m r hw => ((ends_aux np F f).1 st m false r hw).noBrk, fun tl a m => ((ends_aux np F f).2 tl a m).1.noBrk⟩

theorem no_exit_aux (np : String → Option Prog) (F : FunTab) : ∀ f,
    (∀ st m k, WFS st k false = true → NoExit (evalS np F f st m)) ∧
    (∀ tl a m, WFS a true false = true → NoExit (doIter np F f tl a m)) :=
  fun f => ⟨fun st m k hw => ((ends_aux np F f).1 st m k false hw).noExit,
    fun tl a m hw => by have := ((ends_aux np F f).2 tl a m).1; rw [hw] at this; exact this.noExit⟩

def KeepsR (m : Mach) (r : Res) : Prop := ∀ m', r.good = some m' → SameBelow m'.loops m.loops

theorem keepsR_bad {m : Mach} {r : Res} (h : r.good = none) : KeepsR m r := fun m' hm => by rw [h] at hm; cases hm

theorem completion_keeps_loops (np : String → Option Prog) (F : FunTab)
    (hFw : ∀ addr body ts, F addr = some (body, ts) → WFS body false false = true) (f : Nat) (st : Stmt) (m m' : Mach) (k r : Bool)
    (hw : WFS st k r = true) (h : evalS np F f st m = .ok m') : SameBelow m'.loops m.loops :=
  (show Ends (FW F) k r m (.ok m') from h ▸ (ends_aux np F f).1 st m k r hw) hFw |>.loops

theorem counted_loop_leaves_no_index (np : String → Option Prog) (F : FunTab)
    (hFw : ∀ addr body ts, F addr = some (body, ts) → WFS body false false = true) (f : Nat) (td tl : Nat) (a : Stmt) (m m' : Mach)
    (hw : WFS a true false = true) (h : evalS np F f (.doLoop td tl a) m = .ok m') : m'.loops = m.loops := by
  cases f with
  | zero => rw [evalS_zero] at h; cases h
  | succ f =>
    rw [evalS_do] at h
    obtain ⟨l, m1, hd, h⟩ := ofR_eq_ok h
    have h1 := (doInit_stays m).2
    rw [hd] at h1
    split at h
    · obtain ⟨mx, lx, hs, hp⟩ := ((ends_aux np F f).2 tl a _).2 hFw hw m' h
      rw [(hs.popLoop hp).2, h1]
    · cases h; exact h1

end Xeh.Structured
