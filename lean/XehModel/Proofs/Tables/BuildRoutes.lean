/-
Tie B, tables (DESIGN §4.2) — the two routes into the compiler (a text, a file) and who unwinds / forgets a build (method: Proofs/LeafTables.lean).
-/
import XehModel.Generated.Tables

namespace Xeh.LeafBridge
open Xeh.Generated

/-- what `Sess.buildSource` (Model/Session.lean) is a model of, statement by statement; closing the context, for `eval`,
    runs the program -/
def expectedBuild : List String := [
  "let mark=self.build_mark()",
  "self.context_open(mode)?",
  "self.intern_source(_)?",
  "if let Err(e)=self.build0(){self.build_unwind(mark);return Err(e);}",
  "self.const_undo.truncate(mark.const_undo_len)",
  "self.forget_build_log(&mark)",
  "self.context_close()"
]

theorem build_from_source_matches : src_build_from_source = expectedBuild := rfl

/-- `build_from_file` is reading the file followed by the very same statements: the mark is taken before the text becomes
    an input, so a rejected file is taken back like a rejected text -/
theorem a_file_is_built_like_a_text : src_build_from_file.drop 1 = src_build_from_source := by
  rw [build_from_source_matches]; rfl

theorem reading_the_file_comes_first :
    src_build_from_file.head? = some "let s=crate::file::fs_overlay::read_source_file(&path).map_err(|e|{self.last_error=Some(ErrorContext{err:e.clone(),location:None,});e})?" := rfl

theorem both_build_routes_unwind_and_forget :
    src_call_sites.filter (fun r => r.1 == "build_unwind" || r.1 == "forget_build_log") =
      [("build_unwind", "build_from_file", "state.rs"), ("forget_build_log", "build_from_file", "state.rs"),
       ("build_unwind", "build_from_source", "state.rs"), ("forget_build_log", "build_from_source", "state.rs")] := by
  decide +kernel

end Xeh.LeafBridge
