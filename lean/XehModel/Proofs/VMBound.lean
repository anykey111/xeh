/-
C14, stack and heap limits without a well-formedness hypothesis: every primitive, native word, opcode, `step` and `run`
leaves the stack limit and the heap limit alone, keeps the number of heap cells and the length of the code, and — with
a stack limit `S` — leaves at most `max S (cells before)` cells on the data stack.
-/
import XehModel.Proofs.VMRev

namespace Xeh.Mach

def Bnd (m m' : Mach) : Prop :=
  m'.stackLimit = m.stackLimit ∧ m'.heapLimit = m.heapLimit ∧ m'.heap.length = m.heap.length ∧
  (∀ S, m.stackLimit = some S → m'.ds.length ≤ max S m.ds.length) ∧ m'.code.length = m.code.length

theorem Bnd.refl (m : Mach) : Bnd m m := ⟨rfl, rfl, rfl, fun S _ => by omega, rfl⟩
theorem Bnd.trans {a b c : Mach} (h1 : Bnd a b) (h2 : Bnd b c) : Bnd a c :=
  ⟨h2.1.trans h1.1, h2.2.1.trans h1.2.1, h2.2.2.1.trans h1.2.2.1, fun S hS => by
    have x := h1.2.2.2.1 S hS
    have y := h2.2.2.2.1 S (by rw [h1.1]; exact hS)
    omega, h2.2.2.2.2.trans h1.2.2.2.2⟩

/-! below `step` all of it is part of the frame -/

theorem Fr.bnd {a b : Mach} (h : Fr a b) : Bnd a b :=
  ⟨h.stackLimit, h.heapLimit, h.heapLen, h.dsBound, congrArg List.length h.code⟩

theorem popData_bnd (m : Mach) : Bnd m m.popData.2 := (frWalk.prim .popData m).bnd
theorem pushReturn_bnd (m : Mach) (f : Frame) : Bnd m (m.pushReturn f) := (pushReturn_fr m f).bnd
theorem pushLoop_bnd (m : Mach) (l : Loop) : Bnd m (m.pushLoop l) := (pushLoop_fr m l).bnd

theorem dupData_bnd' {m m1 : Mach} {o : Outcome Unit} (h : m.dupData = (o, m1)) : Bnd m m1 := by
  have := (frWalk.built .dupData m).bnd; rwa [h] at this
theorem swapData_bnd' {m m1 : Mach} {o : Outcome Unit} (h : m.swapData = (o, m1)) : Bnd m m1 := by
  have := (frWalk.prim .swapData m).bnd; rwa [h] at this
theorem rotData_bnd' {m m1 : Mach} {o : Outcome Unit} (h : m.rotData = (o, m1)) : Bnd m m1 := by
  have := (frWalk.prim .rotData m).bnd; rwa [h] at this
theorem overData_bnd' {m m1 : Mach} {o : Outcome Unit} (h : m.overData = (o, m1)) : Bnd m m1 := by
  have := (frWalk.prim .overData m).bnd; rwa [h] at this
theorem setLoopItems_bnd' {m m1 : Mach} {c : Cell} {o : Outcome Unit} (h : m.setLoopItems c = (o, m1)) : Bnd m m1 := by
  have := (frWalk.prim (.setLoopItems c) m).bnd; rwa [h] at this

theorem exec_bnd (np : String → Option Prog) (m : Mach) (ip : Nat) (op : Op) : Bnd m (exec np m ip op).2 :=
  (exec_fr np m ip op).bnd

theorem meterIncrease_bnd (m : Mach) : Bnd m m.meterIncrease.2 := by
  unfold meterIncrease; split <;> (try split) <;> exact Bnd.refl m

theorem patchCode_bnd (m : Mach) (ip : Nat) (op : Op) : Bnd m (m.patchCode ip op) := by
  obtain ⟨cp, h, hlen, -⟩ := patchCode_eq m ip op
  rw [h]; exact ⟨rfl, rfl, rfl, fun S _ => Nat.le_max_right .., hlen⟩

theorem step_bnd (np : String → Option Prog) (m : Mach) : Bnd m (step np m).2 :=
  step_rel Bnd Bnd.trans Bnd.refl meterIncrease_bnd patchCode_bnd (exec_bnd np) m

theorem run_bnd (np : String → Option Prog) : ∀ (fuel : Nat) (m : Mach) (r : R Unit),
    run np fuel m = some r → Bnd m r.2 :=
  run_rel Bnd Bnd.refl Bnd.trans fun m _ => step_bnd np m

end Xeh.Mach
