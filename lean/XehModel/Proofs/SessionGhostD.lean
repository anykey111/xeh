/-
The same congruence as Proofs/SessionGhost.lean for a coarser relation: `GD` also forgets the debug map and the
last-token marker (the two places where token *indices* are stored).  Two sessions related by `GD` treat token lists
alike even when the tokens sit at different positions of their sources — which is what comparing a program containing
`#( e #)` with the program containing the values of `e` needs.  The compiler's part is Proofs/CompileTok.lean.
-/
import XehModel.Proofs.CompileTok
import XehModel.Proofs.SessionGhost

namespace Xeh.Session
open Xeh Xeh.Mach Xeh.Compile Xeh.Session.Sess

/-- as `GS` (`s` is `t` with another meter and stop flag and `pre` in front of the output, no instruction limit on `s`),
    with debug map and last-token marker forgotten too; field by field in `GD.spec` -/
def GD (pre : List Char) (s t : Sess) : Prop :=
  normA s.m = normB pre t.m ∧ s.flows = t.flows ∧ s.nested = t.nested ∧ s.constUndo = t.constUndo ∧ s.m.insnLimit = none

def GRD (pre : List Char) : SRes → SRes → Prop
  | .ok s, .ok t => GD pre s t
  | .err e s, .err e' t => e = e' ∧ GD pre s t
  | .panic p s, .panic p' t => p = p' ∧ GD pre s t
  | .unsupported u, .unsupported u' => u = u'
  | .timeout, .timeout => True
  | _, _ => False

variable {pre : List Char}

theorem GD.limit {s t : Sess} (h : GD pre s t) : s.m.insnLimit = none := h.2.2.2.2

theorem grd_ite (c : Prop) [Decidable c] {a a' b b' : SRes} (h1 : GRD pre a a') (h2 : GRD pre b b') :
    GRD pre (if c then a else b) (if c then a' else b') := by
  split <;> assumption

def eraseAD (s : Sess) : Sess := { s with m := normA s.m, dmap := [], lastTok := 0 }
def eraseBD (pre : List Char) (t : Sess) : Sess := { t with m := normB pre t.m, dmap := [], lastTok := 0 }

theorem gd_iff {s t : Sess} : GD pre s t ↔ eraseAD s = eraseBD pre t ∧ s.m.insnLimit = none := by
  simp only [GD, eraseAD, eraseBD, Sess.mk.injEq, and_assoc, true_and]

theorem GD.map {s t : Sess} (h : GD pre s t) (F : Sess → Sess)
    (hA : ∀ s, eraseAD (F s) = eraseAD (F (eraseAD s)) := by intro _; rfl)
    (hB : ∀ t, eraseBD pre (F t) = eraseAD (F (eraseBD pre t)) := by intro _; rfl)
    (hl : ∀ s, (F s).m.insnLimit = s.m.insnLimit := by intro _; rfl) : GD pre (F s) (F t) := by
  obtain ⟨e, l⟩ := gd_iff.mp h
  exact gd_iff.mpr ⟨erase_map F hA hB e, by rw [hl]; exact l⟩

theorem gd_withM {s t : Sess} (h : GD pre s t) {a b : Mach} (hab : normA a = normB pre b) (hl : a.insnLimit = none) :
    GD pre { s with m := a } { t with m := b } := by
  obtain ⟨_, a3, a4, a5, _⟩ := h
  exact ⟨hab, a3, a4, a5, hl⟩

theorem gd_toC (s t : Sess) (h : GD pre s t) : CD s.toC t.toC :=
  show (eraseAD s).toC = (eraseBD pre t).toC from congrArg Sess.toC (gd_iff.mp h).1

theorem gd_fromC (s t : Sess) (h : GD pre s t) (c c' : CState) (hc : CD c c') : GD pre (s.fromC c) (t.fromC c') := by
  obtain ⟨e, l⟩ := gd_iff.mp h
  refine gd_iff.mpr ⟨?_, l⟩
  show eraseAD ((eraseAD s).fromC { c with dmap := [], lastTok := 0 }) = eraseAD ((eraseBD pre t).fromC { c' with dmap := [], lastTok := 0 })
  rw [e, show ({ c with dmap := [], lastTok := 0 } : CState) = { c' with dmap := [], lastTok := 0 } from hc]

theorem gd_setTok (s t : Sess) (h : GD pre s t) (i j : Nat) : GD pre { s with lastTok := i } { t with lastTok := j } := by
  obtain ⟨a1, a3, a4, a5, a7⟩ := h
  exact ⟨a1, a3, a4, a5, a7⟩

theorem gd_ofC (s t : Sess) (h : GD pre s t) (r r' : CRes CState) (hr : CRD r r') :
    SRes.Rel (GD pre) (GD pre) (s.ofC r) (t.ofC r') := by
  cases r <;> cases r' <;> first | exact hr.elim | skip
  · exact gd_fromC s t h _ _ hr
  · exact ⟨hr.1, gd_setTok _ _ (gd_fromC s t h _ _ hr.2) _ _⟩
  · exact hr

theorem gd_congruence : Congruence (GD pre) where
  ctx h := (Ghost.ds_eq _ _ h.1).2.1
  dict h := (Ghost.ds_eq _ _ h.1).2.2.2.2.2.2.2.1
  flows h := h.2.1
  nested h := h.2.2.1
  undo h := h.2.2.2.1
  run h fuel := ghost_runS _ _ fuel h.1 h.limit (fun _ _ => gd_withM h)
  popData h := ⟨(Ghost.popData_sim _ _ h.1).1,
    gd_withM h (Ghost.popData_sim _ _ h.1).2 (by rw [popData_limit]; exact h.limit)⟩
  emit h op := h.map (·.emit op)
  contextOpen h mode := h.map (·.contextOpen mode)
  setNested h n := h.map (fun x => { x with nested := n })
  setCtx h c := h.map (fun x => { x with m := { x.m with ctx := c } })
  closed h prev := h.map (·.closed prev)
  setDict h d u := h.map (fun x => { x with m := { x.m with dict := d }, constUndo := u })
  compile h k := gd_ofC _ _ h _ _ (cd_cact k _ _ (gd_toC _ _ h))

theorem gd_closeMeta {s t : Sess} (h : GD pre s t) :
    GD pre { s with m := { s.m with code := s.m.code.take s.m.ctx.csLen, dict := purge s.m.dict s.m.ctx.diLen },
                    dmap := s.dmap.take s.m.ctx.csLen }
           { t with m := { t.m with code := t.m.code.take t.m.ctx.csLen, dict := purge t.m.dict t.m.ctx.diLen },
                    dmap := t.dmap.take t.m.ctx.csLen } :=
  h.map fun x => { x with m := { x.m with code := x.m.code.take x.m.ctx.csLen, dict := purge x.m.dict x.m.ctx.diLen },
                          dmap := x.dmap.take x.m.ctx.csLen }

theorem gd_setDict {s t : Sess} (h : GD pre s t) (d : List (String × Entry)) (u : List (Nat × Cell)) :
    GD pre { s with m := { s.m with dict := d }, constUndo := u } { t with m := { t.m with dict := d }, constUndo := u } :=
  gd_congruence.setDict h d u

theorem gd_setDict' {s t : Sess} (h : GD pre s t) (d : List (String × Entry)) :
    GD pre { s with m := { s.m with dict := d } } { t with m := { t.m with dict := d } } :=
  h.map (fun x => { x with m := { x.m with dict := d } })

local macro "m_cases " h:ident a:ident b:ident : tactic => `(tactic|
  (cases $a:ident; cases $b:ident
   simp only [normA, normB, Mach.mk.injEq, true_and, and_true] at $h:ident
   obtain ⟨m1, m2, m3, m4, m5, m6, m7, m8, m9, m10, m11, m12, m13⟩ := $h
   subst_vars))

/-- afterwards `s = ⟨sm, d, f, n, c, l⟩`, `t = ⟨tm, d', f, n, c, l'⟩`: flows, saved contexts and undo list identified,
    debug map and marker left apart -/
local macro "gd_half " h:ident s:ident t:ident " with " sm:ident tm:ident hm:ident hl:ident : tactic => `(tactic|
  (obtain ⟨$hm:ident, h3, h4, h5, $hl:ident⟩ := $h
   obtain ⟨$sm:ident, _, _, _, _, _⟩ := $s
   obtain ⟨$tm:ident, _, _, _, _, _⟩ := $t
   simp only at $hm:ident h3 h4 h5 $hl:ident
   subst h3 h4 h5))

theorem gd_tokens (fuel depth : Nat) (toks : List Tok) (i j : Nat) (s t : Sess) (h : GD pre s t) :
    SRes.Rel (GD pre) (GD pre) (tokens fuel depth toks i s) (tokens fuel depth toks j t) :=
  gd_congruence.tokens fuel depth (fun _ _ => True) (fun _ _ _ => trivial) (fun i j s t _ h => gd_setTok s t h i j) toks i j s t
    trivial h

theorem gd_abortRun {s t : Sess} (h : GD pre s t) : GD pre s.abortRun t.abortRun := h.map Sess.abortRun

theorem gd_unwind (mark : Sess) {s t : Sess} (h : GD pre s t) : GD pre (unwind mark s) (unwind mark t) :=
  h.map (unwind mark)

theorem GD.spec {s t : Sess} (h : GD pre s t) :
    s.m.out = pre ++ t.m.out ∧
    s = { t with m := { t.m with meter := s.m.meter, out := s.m.out, aboutToStop := s.m.aboutToStop },
                 dmap := s.dmap, lastTok := s.lastTok } := by
  gd_half h s t with sm tm hm hl
  m_cases hm sm tm
  simp

end Xeh.Session
