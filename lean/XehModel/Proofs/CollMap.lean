/-
The map as a sorted association list (`insertL / lookupL / eraseL`) under a comparator that is lawful on the
keys in play (`CmpLawfulOn P`).
-/
import XehModel.Proofs.CollOrder

namespace Xeh

def KeysIn (P : Cell → Prop) (l : Entries) : Prop := ∀ p ∈ l, P p.1
def SortedKeys (l : Entries) : Prop := l.Pairwise fun p q => Cell.cmp p.1 q.1 = .lt

def alGet (k : Cell) (l : Entries) : Option Cell := (l.find? fun p => Cell.beq k p.1).map (·.2)

theorem alGet_cons (k h hv : Cell) (t : Entries) :
    alGet k ((h, hv) :: t) = if Cell.beq k h then some hv else alGet k t := by
  simp only [alGet, List.find?_cons]
  cases Cell.beq k h <;> rfl

@[simp] theorem PairList.toList_insert (m : PairList) (k v : Cell) : (m.insert k v).toList = insertL k v m.toList :=
  PairList.toList_ofList _

@[simp] theorem PairList.toList_erase (m : PairList) (k : Cell) : (m.erase k).toList = eraseL k m.toList :=
  PairList.toList_ofList _

theorem KeysIn.tail {P} {p : Cell × Cell} {t : Entries} (h : KeysIn P (p :: t)) : KeysIn P t :=
  fun q hq => h q (List.mem_cons_of_mem _ hq)
theorem KeysIn.head {P} {p : Cell × Cell} {t : Entries} (h : KeysIn P (p :: t)) : P p.1 :=
  h p (List.mem_cons_self)

theorem ord_cases (o : Ordering) : o = .lt ∨ o = .eq ∨ o = .gt := by cases o <;> simp

theorem length_insertL {k : Cell} (v : Cell) :
    ∀ l : Entries, (insertL k v l).length = if (lookupL k l).isSome then l.length else l.length + 1
  | [] => rfl
  | (h, hv) :: t => by
    have ih := length_insertL (k := k) v t
    simp only [insertL, lookupL]
    rcases ord_cases (Cell.cmp k h) with hc | hc | hc <;>
      simp only [hc, List.length_cons, Option.isSome_none, Option.isSome_some, if_true, if_false, Bool.false_eq_true]
    rw [ih]; split <;> rfl

theorem mem_insertL {k v : Cell} : ∀ (l : Entries) (p : Cell × Cell), p ∈ insertL k v l → p = (k, v) ∨ p ∈ l
  | [], p, hp => Or.inl (List.mem_singleton.mp hp)
  | (h, hv) :: t, p, hp => by
    simp only [insertL] at hp
    cases hc : Cell.cmp k h <;> rw [hc] at hp <;> rcases List.mem_cons.mp hp with rfl | hp
    · exact Or.inl rfl
    · exact Or.inr hp
    · exact Or.inl rfl
    · exact Or.inr (List.mem_cons_of_mem _ hp)
    · exact Or.inr List.mem_cons_self
    · exact (mem_insertL t p hp).imp_right (List.mem_cons_of_mem _)

theorem mem_eraseL {k : Cell} : ∀ (l : Entries) (p : Cell × Cell), p ∈ eraseL k l → p ∈ l
  | (h, hv) :: t, p, hp => by
    simp only [eraseL] at hp
    cases hc : Cell.cmp k h <;> rw [hc] at hp
    · exact hp
    · exact List.mem_cons_of_mem _ hp
    · exact (List.mem_cons.mp hp).elim (· ▸ List.mem_cons_self) fun hp => List.mem_cons_of_mem _ (mem_eraseL t p hp)

theorem keysIn_insertL {P : Cell → Prop} {k : Cell} (v : Cell) (hk : P k) (l : Entries) (h : KeysIn P l) :
    KeysIn P (insertL k v l) :=
  fun p hp => (mem_insertL l p hp).elim (· ▸ hk) (h p)

theorem keysIn_eraseL {P : Cell → Prop} {k : Cell} (l : Entries) (h : KeysIn P l) : KeysIn P (eraseL k l) :=
  fun p hp => h p (mem_eraseL l p hp)

theorem sorted_eraseL {k : Cell} : ∀ l : Entries, SortedKeys l → SortedKeys (eraseL k l)
  | [], hs => hs
  | (h, hv) :: t, hs => by
    have hs' := List.pairwise_cons.mp hs
    simp only [eraseL]
    cases Cell.cmp k h
    · exact hs
    · exact hs'.2
    · exact List.pairwise_cons.mpr ⟨fun q hq => hs'.1 q (mem_eraseL t q hq), sorted_eraseL t hs'.2⟩

theorem length_eraseL {k : Cell} :
    ∀ l : Entries, (eraseL k l).length = if (lookupL k l).isSome then l.length - 1 else l.length
  | [] => rfl
  | (h, hv) :: t => by
    have ih := length_eraseL (k := k) t
    simp only [eraseL, lookupL]
    rcases ord_cases (Cell.cmp k h) with hc | hc | hc <;>
      simp only [hc, List.length_cons, Option.isSome_none, Option.isSome_some, if_true, if_false, Bool.false_eq_true,
        Nat.add_sub_cancel]
    rw [ih]; split
    · -- a hit in `t` means `t` is not empty
      cases t with
      | nil => contradiction
      | cons _ _ => rfl
    · rfl

theorem mem_of_lookupL {k v : Cell} :
    ∀ l : Entries, lookupL k l = some v → ∃ k', (k', v) ∈ l ∧ Cell.cmp k k' = .eq
  | (h, hv) :: t, hl => by
    simp only [lookupL] at hl
    cases hc : Cell.cmp k h <;> rw [hc] at hl
    · cases hl
    · cases hl; exact ⟨h, List.mem_cons_self, hc⟩
    · obtain ⟨k', hm, he⟩ := mem_of_lookupL t hl
      exact ⟨k', List.mem_cons_of_mem _ hm, he⟩

theorem lookupL_none_of_lt {k : Cell} :
    ∀ l : Entries, (∀ q ∈ l, Cell.cmp k q.1 = .lt) → lookupL k l = none
  | [], _ => rfl
  | (h, hv) :: t, hlt => by simp only [lookupL, hlt (h, hv) List.mem_cons_self]

section
variable {P : Cell → Prop} (L : CmpLawfulOn P)
include L

theorem lookupL_insertL_same {k : Cell} (v : Cell) (hk : P k) :
    ∀ l : Entries, lookupL k (insertL k v l) = some v
  | [] => by simp only [insertL, lookupL, L.refl hk]
  | (h, hv) :: t => by
    simp only [insertL]
    cases hc : Cell.cmp k h <;> simp only [lookupL, L.refl hk, hc]
    exact lookupL_insertL_same v hk t

theorem lookupL_insertL_other {k k' : Cell} (v : Cell) (hk : P k) (hk' : P k')
    (hne : Cell.cmp k' k ≠ .eq) :
    ∀ l : Entries, KeysIn P l → lookupL k' (insertL k v l) = lookupL k' l
  | [], _ => by
    simp only [insertL, lookupL]
    cases hc' : Cell.cmp k' k <;> first | rfl | exact absurd hc' hne
  | (h, hv) :: t, hin => by
    have hh : P h := hin.head
    simp only [insertL]
    cases hc : Cell.cmp k h <;> simp only [lookupL]
    · cases hc' : Cell.cmp k' k
      · rw [L.lt_trans hk' hk hh hc' hc]
      · exact absurd hc' hne
      · rfl
    · rw [← L.cmp_congr_right hk hh hk' hc]
      cases hc' : Cell.cmp k' k <;> first | rfl | exact absurd hc' hne
    · cases Cell.cmp k' h <;> simp only []
      exact lookupL_insertL_other v hk hk' hne t hin.tail

theorem insertL_idem {k : Cell} (v : Cell) (hk : P k) :
    ∀ l : Entries, insertL k v (insertL k v l) = insertL k v l
  | [] => by simp only [insertL, L.refl hk]
  | (h, hv) :: t => by
    simp only [insertL]
    cases hc : Cell.cmp k h <;> simp only [insertL, L.refl hk, hc]
    rw [insertL_idem v hk t]

theorem lt_tail {k h : Cell} {hv : Cell} {t : Entries} (hk : P k) (hin : KeysIn P ((h, hv) :: t))
    (hs : SortedKeys ((h, hv) :: t)) (hc : Cell.cmp k h ≠ .gt) : ∀ q ∈ t, Cell.cmp k q.1 = .lt :=
  fun q hq => L.lt_of_le_of_lt hk hin.head (hin.tail q hq) hc ((List.pairwise_cons.mp hs).1 q hq)

theorem sorted_insertL {k : Cell} (v : Cell) (hk : P k) :
    ∀ l : Entries, KeysIn P l → SortedKeys l → SortedKeys (insertL k v l)
  | [], _, _ => List.pairwise_singleton _ _
  | (h, hv) :: t, hin, hs => by
    have hs' := List.pairwise_cons.mp hs
    simp only [insertL]
    cases hc : Cell.cmp k h <;> simp only []
    · exact List.pairwise_cons.mpr ⟨List.forall_mem_cons.mpr ⟨hc, lt_tail L hk hin hs (by simp [hc])⟩, hs⟩
    · exact List.pairwise_cons.mpr ⟨lt_tail L hk hin hs (by simp [hc]), hs'.2⟩
    · refine List.pairwise_cons.mpr ⟨fun q hq => ?_, sorted_insertL v hk t hin.tail hs'.2⟩
      rcases mem_insertL t q hq with rfl | hq
      · exact L.lt_of_gt hk hin.head hc
      · exact hs'.1 q hq

theorem lookupL_eraseL_same {k : Cell} (hk : P k) :
    ∀ l : Entries, KeysIn P l → SortedKeys l → lookupL k (eraseL k l) = none
  | [], _, _ => rfl
  | (h, hv) :: t, hin, hs => by
    simp only [eraseL]
    cases hc : Cell.cmp k h <;> simp only [lookupL, hc]
    · exact lookupL_none_of_lt t (lt_tail L hk hin hs (by simp [hc]))
    · exact lookupL_eraseL_same hk t hin.tail (List.pairwise_cons.mp hs).2

theorem lookupL_eraseL_other {k k' : Cell} (hk : P k) (hk' : P k') (hne : Cell.cmp k' k ≠ .eq) :
    ∀ l : Entries, KeysIn P l → SortedKeys l → lookupL k' (eraseL k l) = lookupL k' l
  | [], _, _ => rfl
  | (h, hv) :: t, hin, hs => by
    simp only [eraseL]
    cases hc : Cell.cmp k h <;> simp only [lookupL]
    · -- k ≅ h: the removed entry is not the one `k'` looks for
      have he := L.cmp_congr_right hk hin.head hk' hc
      cases hc' : Cell.cmp k' h
      · exact lookupL_none_of_lt t (lt_tail L hk' hin hs (by simp [hc']))
      · exact absurd (he ▸ hc') hne
      · rfl
    · cases Cell.cmp k' h <;> simp only []
      exact lookupL_eraseL_other hk hk' hne t hin.tail (List.pairwise_cons.mp hs).2

theorem lookupL_congr {k k' : Cell} (hk : P k) (hk' : P k') (he : Cell.cmp k k' = .eq) :
    ∀ l : Entries, KeysIn P l → lookupL k l = lookupL k' l
  | [], _ => rfl
  | (h, hv) :: t, hin => by
    simp only [lookupL, L.cmp_congr_left hk hk' hin.head he]
    cases Cell.cmp k' h <;> simp only []
    exact lookupL_congr hk hk' he t hin.tail

theorem lookupL_eq_alGet {k : Cell} (hk : P k) :
    ∀ l : Entries, KeysIn P l → SortedKeys l → lookupL k l = alGet k l
  | [], _, _ => rfl
  | (h, hv) :: t, hin, hs => by
    have ih := lookupL_eq_alGet hk t hin.tail (List.pairwise_cons.mp hs).2
    rw [alGet_cons, lookupL]
    cases hc : Cell.cmp k h
    · rw [L.beq_false_of_ne hk hin.head (by simp [hc]), ← ih]
      exact (lookupL_none_of_lt t (lt_tail L hk hin hs (by simp [hc]))).symm
    · rw [(L.eq_iff_beq k h hk hin.head).mp hc]; rfl
    · rw [L.beq_false_of_ne hk hin.head (by simp [hc])]; exact ih

theorem lookupL_of_mem {k v : Cell} :
    ∀ l : Entries, KeysIn P l → SortedKeys l → (k, v) ∈ l → lookupL k l = some v
  | (h, hv) :: t, hin, hs, hm => by
    have hs' := List.pairwise_cons.mp hs
    rcases List.mem_cons.mp hm with heq | hm
    · cases heq; simp only [lookupL, L.refl hin.head]
    · simp only [lookupL, L.gt_of_lt hin.head (hin.tail _ hm) (hs'.1 (k, v) hm)]
      exact lookupL_of_mem t hin.tail hs'.2 hm

end

end Xeh
