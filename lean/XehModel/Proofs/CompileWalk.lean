/-
One walk through the compiling words.  Whatever a compiling word does to the compiler state it does by six moves: it
emits an opcode, replaces the pending flows, rewrites an opcode whose origin a pending flow recorded, adds a dictionary
entry, allocates a heap cell, sets the token marker (`late`, and the token loop).  Which moves it makes it decides from
everything but the debug map and the token marker, so two states that differ only there (`CD`) make the same moves.
The walk is done for a relation between two such states that survives each move made on both (`Keeps2`); a predicate
that survives each move (`Keeps`) is the case of one state taken twice, and it survives the token loop as well.  The
other `Compile*` files prove instances.
-/
import XehModel.Proofs.CompileKind

namespace Xeh.Compile
open CState

/-- `backpatch_jump` on the opcode found at the origin -/
def rejump (rel : Int) : Option Op → Option Op
  | some (.jump _) => some (.jump rel)
  | some (.jumpIf _) => some (.jumpIf rel)
  | some (.jumpIfNot _) => some (.jumpIfNot rel)
  | some (.caseOf _) => some (.caseOf rel)
  | _ => none

theorem backpatchJump_code (s : CState) (i : Nat) (rel : Int) :
    s.backpatchJump i rel = (rejump rel s.code[i]?).map fun op => { s with code := s.code.set i op } := by
  unfold backpatchJump rejump
  generalize s.code[i]? = o
  rcases o with _ | op
  · rfl
  · cases op <;> rfl

theorem popFlow_flows (s : CState) :
    s.popFlow = s.flows.head?.map fun f => (f, { s with flows := s.flows.tail }) := by
  unfold popFlow
  split <;> simp [*]

theorem topFun_mem : ∀ (fl : List Flow) (ff : FunFlow), topFun fl = some ff → Flow.funF ff ∈ fl := by
  intro fl
  induction fl with
  | nil => intro ff e; simp [topFun] at e
  | cons x xs ih =>
    intro ff e
    cases x <;> simp only [topFun] at e
    case funF g => cases e; simp
    all_goals exact List.mem_cons_of_mem _ (ih ff e)

/-- the origins a closing word will patch are at `n` or above; `beginF`, the body origin of `doF` and the builders are
    left free, since they are only jumped to or carry no origin -/
def orgOk (n : Nat) : Flow → Prop
  | .ifF o | .elseF o | .whileF o | .breakF o | .caseOfF o | .caseEndOfF o => n ≤ o
  | .doF f _ => n ≤ f
  | .funF ff => n ≤ ff.start
  | _ => True

def Orgs (n : Nat) (fl : List Flow) : Prop := ∀ f ∈ fl, orgOk n f

theorem orgs_cons {n : Nat} {fl : List Flow} {f : Flow} (hf : orgOk n f) (h : Orgs n fl) : Orgs n (f :: fl) := by
  intro g hg
  rcases List.mem_cons.mp hg with h1 | h1
  · rw [h1]; exact hf
  · exact h g h1

theorem orgs_zero (fl : List Flow) : Orgs 0 fl := fun f _ => by cases f <;> first | exact Nat.zero_le _ | trivial

/-- `take_first_cond_flow` only removes -/
theorem orgs_tfc {n : Nat} {fl rest : List Flow} {f : Flow} (h : Orgs n fl) (e : takeFirstCond fl = some (f, rest)) :
    orgOk n f ∧ Orgs n rest := by
  fun_induction takeFirstCond fl generalizing f rest <;> cases e
  case case2 ih =>
    have := ih (fun g hg => h g (.tail _ hg)) ‹_›
    exact ⟨this.1, orgs_cons (h _ (.head _)) this.2⟩
  all_goals exact ⟨h _ (.head _), fun g hg => h g (.tail _ hg)⟩

theorem orgs_setTopFun {n : Nat} (ff : FunFlow) (hs : n ≤ ff.start) {fl : List Flow} (h : Orgs n fl) :
    Orgs n (setTopFun ff fl) := by
  fun_induction setTopFun ff fl
  · exact h
  · exact orgs_cons hs fun g hg => h g (.tail _ hg)
  · rename_i ih; exact orgs_cons (h _ (.head _)) (ih fun g hg => h g (.tail _ hg))

def CRes.All (P : CState → Prop) (E : CErr → CState → Prop) : CRes CState → Prop
  | .ok s => P s
  | .err e s => E e s
  | .unsupported _ => True

section
variable {P P' : CState → Prop} {E E' : CErr → CState → Prop} {r : CRes CState}

theorem CRes.All.imp (hP : ∀ s, P s → P' s) (hE : ∀ e s, E e s → E' e s) (h : r.All P E) : r.All P' E' := by
  cases r with
  | ok s => exact hP s h
  | err e s => exact hE e s h
  | unsupported u => trivial

theorem CRes.All.ok {s : CState} (h : r.All P E) (e : r = .ok s) : P s := by subst e; exact h

theorem CRes.All.err {x : CErr} {s : CState} (h : r.All P E) (e : r = .err x s) : E x s := by subst e; exact h

end

/-- the two states differ in the debug map and the token marker at most -/
def CD (c c' : CState) : Prop := ({ c with dmap := [], lastTok := 0 } : CState) = { c' with dmap := [], lastTok := 0 }

/-- with `b` in this form, whatever both states go through yields states that agree by `rfl` outside the two fields -/
theorem CD.relab {a b : CState} (h : CD a b) : ∃ d l, b = { a with dmap := d, lastTok := l } := by
  cases a; cases b
  simp only [CD, CState.mk.injEq, true_and] at h
  obtain ⟨h1, h2, h3, h4, h5, h6, h7⟩ := h
  subst_vars
  exact ⟨_, _, rfl⟩

/-- `R` survives every move of a compiling word made on both of two states.  `n` is the code length at a mark: `Orgs n`
    keeps every origin a pending flow will have patched at or above it, so `patch` is asked for `i ≥ n` only.  `T` holds
    of every pair of values the token markers take within a word, so `emit` is asked for only when the markers have it. -/
structure Keeps2 (n : Nat) (T : Nat → Nat → Prop) (R : CState → CState → Prop) : Prop where
  cd : ∀ {a b}, R a b → CD a b
  mark : ∀ {a b}, R a b → n ≤ a.code.length
  emit : ∀ {a b} (op : Op), T a.lastTok b.lastTok → R a b → R (a.emit op) (b.emit op)
  flows : ∀ {a b} (fl : List Flow), R a b → R { a with flows := fl } { b with flows := fl }
  patch : ∀ {a b} (i : Nat) (op : Op), R a b → n ≤ i →
    R { a with code := a.code.set i op } { b with code := b.code.set i op }
  dict : ∀ {a b} (e : String × Entry), R a b → R { a with dict := e :: a.dict } { b with dict := e :: b.dict }
  alloc : ∀ {a b}, R a b → (∀ H, a.heapLimit = some H → a.heapLen < H) →
    R { a with heapLen := a.heapLen + 1 } { b with heapLen := b.heapLen + 1 }
  tok : ∀ {a b} {t t' : Nat}, T t t' → R a b → R { a with lastTok := t } { b with lastTok := t' }

structure Inv2 (n : Nat) (T : Nat → Nat → Prop) (R : CState → CState → Prop) (a b : CState) : Prop where
  r : R a b
  t : T a.lastTok b.lastTok
  orgs : Orgs n a.flows

/-- the answers are of one kind; the failure clause says both were raised by `cerr` -/
def Kept2 (n : Nat) (T : Nat → Nat → Prop) (R : CState → CState → Prop) : CRes CState → CRes CState → Prop
  | .ok a, .ok b => Inv2 n T R a b
  | .err e a, .err e' b => e.err = e'.err ∧ R a b ∧ T a.lastTok b.lastTok ∧ e.tok = a.lastTok ∧ e'.tok = b.lastTok
  | .unsupported u, .unsupported u' => u = u'
  | _, _ => False

section
variable {n : Nat} {T : Nat → Nat → Prop} {R : CState → CState → Prop} (K : Keeps2 n T R) {a b : CState}

theorem Inv2.cerr (h : Inv2 n T R a b) (x : Xerr) : Kept2 n T R (cerr a x) (cerr b x) := ⟨rfl, h.r, h.t, rfl, rfl⟩

include K

theorem Inv2.mark (h : Inv2 n T R a b) : n ≤ a.origin := K.mark h.r

theorem Inv2.emit (h : Inv2 n T R a b) (op : Op) : Inv2 n T R (a.emit op) (b.emit op) := ⟨K.emit op h.t h.r, h.t, h.orgs⟩

theorem Inv2.push (h : Inv2 n T R a b) (f : Flow) (hf : orgOk n f) : Inv2 n T R (a.pushFlow f) (b.pushFlow f) := by
  obtain ⟨d, l, rfl⟩ := (K.cd h.r).relab
  exact ⟨K.flows (f :: a.flows) h.r, h.t, orgs_cons hf h.orgs⟩

/-- a word that pops (`b` in the form `CD.relab` gives it): nothing is pending, or both states lose the same flow -/
theorem Inv2.pops {d : List Nat} {l : Nat} (h : Inv2 n T R a { a with dmap := d, lastTok := l }) :
    (a.popFlow = none ∧ ({ a with dmap := d, lastTok := l } : CState).popFlow = none) ∨
    ∃ f x, a.popFlow = some (f, x) ∧ ({ a with dmap := d, lastTok := l } : CState).popFlow = some (f, { x with dmap := d, lastTok := l }) ∧
      Inv2 n T R x { x with dmap := d, lastTok := l } ∧ orgOk n f := by
  rw [popFlow_flows, popFlow_flows]
  cases hf : a.flows with
  | nil => exact .inl ⟨rfl, rfl⟩
  | cons f rest =>
    have ho : Orgs n (f :: rest) := hf ▸ h.orgs
    exact .inr ⟨f, _, rfl, rfl, ⟨K.flows rest h.r, h.t, fun g hg => ho g (List.mem_cons_of_mem _ hg)⟩, ho f List.mem_cons_self⟩

theorem Inv2.tfc (h : Inv2 n T R a b) {f : Flow} {rest : List Flow} (e : takeFirstCond a.flows = some (f, rest)) :
    Inv2 n T R { a with flows := rest } { b with flows := rest } ∧ orgOk n f :=
  ⟨⟨K.flows _ h.r, h.t, (orgs_tfc h.orgs e).2⟩, (orgs_tfc h.orgs e).1⟩

theorem Inv2.backpatch (h : Inv2 n T R a b) {i : Nat} (hi : n ≤ i) (op : Op) :
    Inv2 n T R (a.backpatch i op) (b.backpatch i op) := ⟨K.patch i op h.r hi, h.t, h.orgs⟩

theorem Inv2.bpj (h : Inv2 n T R a b) {i : Nat} (hi : n ≤ i) (rel : Int) {k k' : CState → CRes CState}
    (hk : ∀ x d l, Inv2 n T R x { x with dmap := d, lastTok := l } → Kept2 n T R (k x) (k' { x with dmap := d, lastTok := l })) :
    Kept2 n T R
      (match (generalizing := false) a.backpatchJump i rel with
        | some s => k s
        | none => .unsupported "backpatch")
      (match (generalizing := false) b.backpatchJump i rel with
        | some s => k' s
        | none => .unsupported "backpatch") := by
  obtain ⟨d, l, rfl⟩ := (K.cd h.r).relab
  rw [backpatchJump_code, backpatchJump_code]
  show Kept2 n T R (match (rejump rel a.code[i]?).map _ with | some s => k s | none => _)
    (match (rejump rel a.code[i]?).map _ with | some s => k' s | none => _)
  cases rejump rel a.code[i]? with
  | none => rfl
  | some op => exact hk _ d l ⟨K.patch i op h.r hi, h.t, h.orgs⟩

theorem endcaseLoop_keeps2 (fuel : Nat) (o : Nat) :
    ∀ a b, Inv2 n T R a b → Kept2 n T R (endcaseLoop fuel a o) (endcaseLoop fuel b o) := by
  induction fuel with
  | zero => intro a b _; rfl
  | succ m ih =>
    intro a b h
    obtain ⟨d, l, rfl⟩ := (K.cd h.r).relab
    simp only [endcaseLoop]
    split
    · rename_i org rest ht
      exact (h.tfc K ht).1.bpj K (h.tfc K ht).2 _ fun _ _ _ => ih _ _
    · exact (h.tfc K ‹_›).1
    · exact h.cerr _

theorem repeatLoop_keeps2 (fuel : Nat) : ∀ a b, Inv2 n T R a b → Kept2 n T R (repeatLoop fuel a) (repeatLoop fuel b) := by
  induction fuel with
  | zero => intro a b _; rfl
  | succ m ih =>
    intro a b h
    obtain ⟨d, l, rfl⟩ := (K.cd h.r).relab
    simp only [repeatLoop]
    obtain ⟨ea, eb⟩ | ⟨f, x, ea, eb, hx, hf⟩ := h.pops K <;> rw [ea, eb]
    · exact h.cerr _
    · cases f with
      | breakF org => exact hx.bpj K hf _ fun _ _ _ => ih _ _
      | beginF bo => exact hx.emit K _
      | whileF c =>
        dsimp only
        obtain ⟨ea, eb⟩ | ⟨g, y, ea, eb, hy, _⟩ := hx.pops K <;> rw [ea, eb]
        · exact hx.cerr _
        · cases g with
          | beginF bo => exact hy.bpj K hf _ fun _ _ _ h' => h'.emit K _
          | _ => exact hy.cerr _
      | _ => exact hx.cerr _

theorem loopLoop_keeps2 (fuel : Nat) (i j : Nat) (hi : n ≤ i) :
    ∀ a b, Inv2 n T R a b → Kept2 n T R (loopLoop fuel a i j) (loopLoop fuel b i j) := by
  induction fuel with
  | zero => intro a b _; rfl
  | succ m ih =>
    intro a b h
    obtain ⟨d, l, rfl⟩ := (K.cd h.r).relab
    simp only [loopLoop]
    obtain ⟨ea, eb⟩ | ⟨f, x, ea, eb, hx, hf⟩ := h.pops K <;> rw [ea, eb]
    · exact h.cerr _
    · cases f with
      | breakF org => exact ih _ _ (hx.backpatch K hf _)
      | doF fo bo => exact (hx.backpatch K hf _).backpatch K hi _
      | _ => exact hx.cerr _

end

section
variable {n : Nat} {T : Nat → Nat → Prop} {R : CState → CState → Prop} (K : Keeps2 n T R)
include K

theorem immediate_keeps2 (w : String) : ∀ a b, Inv2 n T R a b → Kept2 n T R (immediate a w) (immediate b w) := by
  intro a b h
  obtain ⟨d, l, rfl⟩ := (K.cd h.r).relab
  have hm : n ≤ a.origin := h.mark K
  unfold immediate
  split
  · exact (h.push K (.ifF _) hm).emit K _
  · -- else
    dsimp only
    split
    · rename_i ifOrg rest ht
      exact (((h.tfc K ht).1.push K (.elseF _) hm).emit K _).bpj K (h.tfc K ht).2 _ fun _ _ _ h' => h'
    · exact (h.tfc K ‹_›).1.cerr _
    · exact h.cerr _
  · -- then
    dsimp only
    split
    · exact (h.tfc K ‹_›).1.bpj K (h.tfc K ‹_›).2 _ fun _ _ _ h' => h'
    · exact (h.tfc K ‹_›).1.bpj K (h.tfc K ‹_›).2 _ fun _ _ _ h' => h'
    · exact (h.tfc K ‹_›).1.cerr _
    · exact h.cerr _
  · exact h.push K .caseF trivial
  · exact (h.push K (.caseOfF _) hm).emit K _
  · -- endof
    dsimp only
    split
    · rename_i ofOrg rest ht
      exact ((h.tfc K ht).1.emit K _).bpj K (h.tfc K ht).2 _ fun _ _ _ h' => h'.push K (.caseEndOfF _) hm
    · exact (h.tfc K ‹_›).1.cerr _
    · exact h.cerr _
  · exact endcaseLoop_keeps2 K _ _ _ _ h
  · exact h.push K (.beginF _) trivial
  · -- until
    obtain ⟨ea, eb⟩ | ⟨f, x, ea, eb, hx, hf⟩ := h.pops K <;> rw [ea, eb]
    · exact h.cerr _
    · cases f with
      | beginF bo => exact hx.emit K _
      | _ => exact hx.cerr _
  · exact (h.emit K _).push K (.whileF _) hm
  · exact repeatLoop_keeps2 K _ _ _ h
  · -- break
    dsimp only
    split
    · exact (h.emit K _).push K (.breakF _) hm
    · exact h.cerr _
  · exact (h.push K .vecF trivial).emit K _
  · -- ]
    obtain ⟨ea, eb⟩ | ⟨f, x, ea, eb, hx, hf⟩ := h.pops K <;> rw [ea, eb]
    · exact h.cerr _
    · cases f with
      | vecF => exact hx.emit K _
      | _ => exact hx.cerr _
  · exact (h.push K .mapF trivial).emit K _
  · -- }
    obtain ⟨ea, eb⟩ | ⟨f, x, ea, eb, hx, hf⟩ := h.pops K <;> rw [ea, eb]
    · exact h.cerr _
    · cases f with
      | mapF => exact hx.emit K _
      | _ => exact hx.cerr _
  · exact (h.push K .tagsF trivial).emit K _
  · -- ^}
    obtain ⟨ea, eb⟩ | ⟨f, x, ea, eb, hx, hf⟩ := h.pops K <;> rw [ea, eb]
    · exact h.cerr _
    · cases f with
      | tagsF => exact hx.emit K _
      | _ => exact hx.cerr _
  · -- ;
    obtain ⟨ea, eb⟩ | ⟨f, x, ea, eb, hx, hf⟩ := h.pops K <;> rw [ea, eb]
    · exact h.cerr _
    · cases f with
      | funF ff => exact (hx.emit K _).bpj K hf _ fun _ _ _ h' => h'
      | _ => exact hx.cerr _
  · exact h.emit K _
  · exact (h.emit K _).push K (.doF _ _) hm
  · exact loopLoop_keeps2 K _ _ _ hm _ _ (h.emit K _)
  · exact (((h.emit K _).emit K _).push K (.doF _ _) ((h.emit K _).mark K)).emit K _
  · exact (h.emit K _).emit K _
  · exact (h.emit K _).emit K _
  · exact (h.emit K _).emit K _
  · exact (h.emit K _).emit K _
  · exact h.emit K _
  · exact h.emit K _
  · exact h.emit K _
  · rfl

theorem buildLocal_keeps2 (name : String) : ∀ a b, Inv2 n T R a b → Kept2 n T R (buildLocal a name) (buildLocal b name) := by
  intro a b h
  obtain ⟨d, l, rfl⟩ := (K.cd h.r).relab
  unfold buildLocal
  dsimp only
  split
  · rename_i ff hf
    exact Inv2.emit K ⟨K.flows (setTopFun _ _) h.r, h.t,
      orgs_setTopFun ⟨ff.start, ff.locals ++ [name]⟩ (h.orgs _ (topFun_mem _ ff hf)) h.orgs⟩ _
  · exact h.cerr _

theorem buildGlobal_keeps2 (name : String) : ∀ a b, Inv2 n T R a b → Kept2 n T R (buildGlobal a name) (buildGlobal b name) := by
  intro a b h
  obtain ⟨d, l, rfl⟩ := (K.cd h.r).relab
  have key (hl : ∀ H, a.heapLimit = some H → a.heapLen < H) : Inv2 n T R
      (({ a with heapLen := a.heapLen + 1, dict := (name, .var a.heapLen) :: a.dict } : CState).emit (.store a.heapLen))
      (({ a with dmap := d, lastTok := l, heapLen := a.heapLen + 1, dict := (name, .var a.heapLen) :: a.dict } : CState).emit
        (.store a.heapLen)) :=
    Inv2.emit K ⟨K.dict _ (K.alloc h.r hl), h.t, h.orgs⟩ _
  unfold buildGlobal
  dsimp only
  by_cases h1 : (a.flows.isEmpty && a.hiddenFlows == 0) = true
  · rw [if_pos h1, if_pos h1]
    by_cases h2 : a.inMeta = true
    · rw [if_pos h2, if_pos h2]; exact h.cerr _
    · rw [if_neg h2, if_neg h2]
      split
      · rename_i lim hlim
        by_cases h4 : a.heapLen ≥ lim
        · rw [if_pos h4, if_pos h4]; exact h.cerr _
        · rw [if_neg h4, if_neg h4]
          exact key fun H hH => by rw [hlim] at hH; cases hH; omega
      · rename_i hlim
        exact key fun H hH => by rw [hlim] at hH; cases hH
  · rw [if_neg h1, if_neg h1]; exact h.cerr _

theorem withName_keeps2 (w name : String) : ∀ a b, Inv2 n T R a b → Kept2 n T R (withName a w name) (withName b w name) := by
  intro a b h
  obtain ⟨d, l, rfl⟩ := (K.cd h.r).relab
  unfold withName
  split
  · exact Inv2.push K ⟨K.dict _ (K.emit _ h.t h.r), h.t, h.orgs⟩ (.funF _) (h.mark K)
  · exact buildLocal_keeps2 K name _ _ h
  · exact buildGlobal_keeps2 K name _ _ h
  · dsimp only
    split
    · exact h.cerr _
    · exact h.emit K _
    · exact h.cerr _
  · exact h.emit K _
  · rfl

/-- `late`: the name's token index may differ as well -/
theorem late_keeps2 (name : String) (t t' : Nat) (ht : T t t') : ∀ a b, Inv2 n T R a b → Kept2 n T R (late a name t) (late b name t') := by
  intro a b h
  obtain ⟨d, l, rfl⟩ := (K.cd h.r).relab
  exact Inv2.bpj K (Inv2.emit K (Inv2.emit K ⟨K.tok ht (K.emit _ h.t h.r), ht, h.orgs⟩ _) _) (h.mark K) _
    fun _ _ _ h' => ⟨K.dict _ h'.r, h'.t, h'.orgs⟩

theorem buildWord_keeps2 (w : String) : ∀ a b, Inv2 n T R a b → Kept2 n T R (buildWord a w) (buildWord b w) := by
  intro a b h
  obtain ⟨d, l, rfl⟩ := (K.cd h.r).relab
  unfold buildWord
  dsimp only
  split
  · exact h.cerr _
  · exact h.emit K _
  · exact h.emit K _
  · rfl
  · exact immediate_keeps2 K _ _ _ h
  · exact h.emit K _
  · exact h.emit K _

/-- any one token; `late` marks the name that follows it -/
theorem cact_keeps2 (k : Kind) : ∀ a b, (∀ name, k = .late name → T (a.lastTok + 1) (b.lastTok + 1)) → Inv2 n T R a b →
    Kept2 n T R (cact a k) (cact b k) := by
  intro a b ht h
  cases k with
  | emit op => exact h.emit K op
  | late name => exact late_keeps2 K name _ _ (ht name rfl) a b h
  | named w name => exact withName_keeps2 K w name a b h
  | imm w => exact immediate_keeps2 K w a b h
  | word w => exact buildWord_keeps2 K w a b h
  | noName => exact h.cerr _
  | _ => rfl

end

/-- `J` survives every move of a compiling word; `T` holds of every value the token marker takes within a word (`Keeps2`
    for one state taken twice); `J` itself ignores the marker -/
structure Keeps (n : Nat) (T : Nat → Prop) (J : CState → Prop) : Prop where
  mark : ∀ {s}, J s → n ≤ s.code.length
  emit : ∀ {s} (op : Op), T s.lastTok → J s → J (s.emit op)
  flows : ∀ {s} (fl : List Flow), J s → J { s with flows := fl }
  patch : ∀ {s} (i : Nat) (op : Op), J s → n ≤ i → J { s with code := s.code.set i op }
  dict : ∀ {s} (e : String × Entry), J s → J { s with dict := e :: s.dict }
  alloc : ∀ {s}, J s → (∀ H, s.heapLimit = some H → s.heapLen < H) → J { s with heapLen := s.heapLen + 1 }
  tok : ∀ {s} (t : Nat), J s → J { s with lastTok := t }

structure Inv (n : Nat) (T : Nat → Prop) (J : CState → Prop) (s : CState) : Prop where
  j : J s
  t : T s.lastTok
  orgs : Orgs n s.flows

/-- the failure clause says it was raised by `cerr` -/
def Kept (n : Nat) (T : Nat → Prop) (J : CState → Prop) : CRes CState → Prop :=
  CRes.All (Inv n T J) fun e sp => J sp ∧ T sp.lastTok ∧ e.tok = sp.lastTok

theorem Inv.zero {J : CState → Prop} {s : CState} (h : J s) : Inv 0 (fun _ => True) J s := ⟨h, trivial, orgs_zero _⟩

theorem Inv.cerr {n : Nat} {T : Nat → Prop} {J : CState → Prop} {s : CState} (h : Inv n T J s) (x : Xerr) :
    Kept n T J (cerr s x) := ⟨h.j, h.t, rfl⟩

theorem Inv.diag {n : Nat} {T : Nat → Prop} {J : CState → Prop} {s : CState} (h : Inv n T J s) : Inv2 n (fun i j => i = j ∧ T i) (fun a b => a = b ∧ J a) s s :=
  ⟨⟨rfl, h.j⟩, ⟨rfl, h.t⟩, h.orgs⟩

theorem Kept2.diag {n : Nat} {T : Nat → Prop} {J : CState → Prop} {r : CRes CState} (h : Kept2 n (fun i j => i = j ∧ T i) (fun a b => a = b ∧ J a) r r) : Kept n T J r := by
  cases r with
  | ok s => exact ⟨h.r.2, h.t.2, h.orgs⟩
  | err e s => exact ⟨h.2.1.2, h.2.2.1.2, h.2.2.2.1⟩
  | unsupported u => trivial

section
variable {n : Nat} {T : Nat → Prop} {J : CState → Prop} (K : Keeps n T J) {s : CState}
include K

theorem Keeps.diag : Keeps2 n (fun i j => i = j ∧ T i) (fun a b => a = b ∧ J a) where
  cd h := h.1 ▸ rfl
  mark h := K.mark h.2
  emit op ht h := ⟨h.1 ▸ rfl, K.emit op ht.2 h.2⟩
  flows fl h := ⟨h.1 ▸ rfl, K.flows fl h.2⟩
  patch i op h hi := ⟨h.1 ▸ rfl, K.patch i op h.2 hi⟩
  dict e h := ⟨h.1 ▸ rfl, K.dict e h.2⟩
  alloc h hl := ⟨h.1 ▸ rfl, K.alloc h.2 hl⟩
  tok ht h := ⟨h.1 ▸ ht.1 ▸ rfl, K.tok _ h.2⟩

theorem Inv.emit (h : Inv n T J s) (op : Op) : Inv n T J (s.emit op) := ⟨K.emit op h.t h.j, h.t, h.orgs⟩

theorem immediate_keeps (w : String) (h : Inv n T J s) : Kept n T J (immediate s w) :=
  (immediate_keeps2 K.diag w s s h.diag).diag

theorem withName_keeps (w name : String) (h : Inv n T J s) : Kept n T J (withName s w name) :=
  (withName_keeps2 K.diag w name s s h.diag).diag

theorem late_keeps (name : String) (t : Nat) (ht : T t) (h : Inv n T J s) : Kept n T J (late s name t) :=
  (late_keeps2 K.diag name t t ⟨rfl, ht⟩ s s h.diag).diag

theorem buildWord_keeps (w : String) (h : Inv n T J s) : Kept n T J (buildWord s w) :=
  (buildWord_keeps2 K.diag w s s h.diag).diag

theorem cact_keeps (k : Kind) (ht : ∀ name, k = .late name → T (s.lastTok + 1)) (h : Inv n T J s) : Kept n T J (cact s k) :=
  (cact_keeps2 K.diag k s s (fun name e => ⟨rfl, ht name e⟩) h.diag).diag

end

/-- what the token loop asks of the token at index `i`: a word's index has `T`; a literal is emitted under `J` directly,
    because `T` may speak of words only (the blamed token) and then `Keeps.emit` does not apply at a literal's index -/
def TokOk (J : CState → Prop) (T : Nat → Prop) (i : Nat) : Tok → Prop
  | .word _ => T i
  | .lit c => ∀ s, J s → J (({ s with lastTok := i } : CState).emit (loadValueOp c))

theorem tokOk_of {n : Nat} {T : Nat → Prop} {J : CState → Prop} (K : Keeps n T J) {i : Nat} (h : T i) {t : Tok} :
    TokOk J T i t := by
  cases t with
  | word w => exact h
  | lit c => exact fun s hs => K.emit _ h (K.tok i hs)

section
variable {n : Nat} {T : Nat → Prop} {J : CState → Prop} {t : Tok} {rest : List Tok} {idx : Nat}
  (hpos : ∀ t' i, (t', i) ∈ (t :: rest).zipIdx idx → TokOk J T i t')
include hpos

theorem tokOk_head : TokOk J T idx t := hpos t idx (List.zipIdx_cons ▸ List.mem_cons_self)

theorem tokOk_tail : ∀ t' i, (t', i) ∈ rest.zipIdx (idx + 1) → TokOk J T i t' :=
  fun t' i hm => hpos t' i (List.zipIdx_cons ▸ List.mem_cons_of_mem _ hm)

end

section
variable {n : Nat} {T : Nat → Prop} {J : CState → Prop} (K : Keeps n T J)
include K

theorem compileToks_keeps (toks : List Tok) (idx : Nat) (s : CState)
    (hpos : ∀ t i, (t, i) ∈ toks.zipIdx idx → TokOk J T i t) (h : J s) (ho : Orgs n s.flows) :
    (compileToks toks idx s).All (fun s' => J s' ∧ Orgs n s'.flows)
      fun e sp => J sp ∧ e.tok = sp.lastTok ∧ (T sp.lastTok ∨ sp.lastTok = idx + toks.length) := by
  have named {name idx s nn} (h0 : T idx) (h1 : T (idx + 1)) (h : J s) (ho : Orgs n s.flows) : Kept n T J
      (if (nn == "late") = true then late { s with lastTok := idx } name (idx + 1)
       else withName { s with lastTok := idx + 1 } nn name) := by
    split
    · exact late_keeps K name _ h1 ⟨K.tok _ h, h0, ho⟩
    · exact withName_keeps K nn name ⟨K.tok _ h, h1, ho⟩
  have fails {e : CErr} {sp : CState} {last : Nat} (hk : Kept n T J (.err e sp)) :
      J sp ∧ e.tok = sp.lastTok ∧ (T sp.lastTok ∨ sp.lastTok = last) := ⟨hk.1, hk.2.2, .inl hk.2.1⟩
  fun_induction compileToks toks idx s
  case case1 => exact ⟨h, ho⟩
  case case2 => exact ⟨K.tok _ h, rfl, .inr rfl⟩
  case case3 c rest idx s s1 ih => exact Nat.succ_add_eq_add_succ idx rest.length ▸ ih (tokOk_tail hpos) (tokOk_head hpos s h) ho
  case case4 w rest idx s s1 i _ ih =>
    have hw := Inv.emit K ⟨K.tok idx h, tokOk_head hpos, ho⟩ (.loadLocal i)
    exact Nat.succ_add_eq_add_succ idx rest.length ▸ ih (tokOk_tail hpos) hw.j hw.orgs
  case case5 w idx s s1 _ nn _ _ name rest r s' hr ih =>
    have hk : Kept n T J r := named (tokOk_head hpos) (tokOk_head (tokOk_tail hpos)) h ho
    rw [hr] at hk
    exact (show idx + 2 + rest.length = idx + (Tok.word w :: Tok.word name :: rest).length by
        simp only [List.length_cons]; omega) ▸ ih (tokOk_tail (tokOk_tail hpos)) hk.j hk.orgs
  case case6 w idx s s1 _ nn _ _ name rest r e sp hr =>
    have hk : Kept n T J r := named (tokOk_head hpos) (tokOk_head (tokOk_tail hpos)) h ho
    exact fails (hr ▸ hk)
  case case7 => trivial
  case case8 => exact fails (Inv.cerr ⟨K.tok _ h, tokOk_head hpos, ho⟩ _)
  case case9 => exact fails (Inv.cerr ⟨K.tok _ h, tokOk_head hpos, ho⟩ _)
  case case10 w rest idx s s1 _ nn _ _ s' hr ih =>
    have hw := (immediate_keeps K nn ⟨K.tok idx h, tokOk_head hpos, ho⟩).ok hr
    exact Nat.succ_add_eq_add_succ idx rest.length ▸ ih (tokOk_tail hpos) hw.j hw.orgs
  case case11 w rest idx s s1 _ nn _ _ e sp hr =>
    exact fails (hr ▸ immediate_keeps K nn ⟨K.tok idx h, tokOk_head hpos, ho⟩)
  case case12 => trivial
  case case13 w rest idx s s1 _ s' hr _ ih =>
    have hw := (buildWord_keeps K w ⟨K.tok idx h, tokOk_head hpos, ho⟩).ok hr
    exact Nat.succ_add_eq_add_succ idx rest.length ▸ ih (tokOk_tail hpos) hw.j hw.orgs
  case case14 w rest idx s s1 _ e sp hr _ =>
    exact fails (hr ▸ buildWord_keeps K w ⟨K.tok idx h, tokOk_head hpos, ho⟩)
  case case15 => trivial

end

end Xeh.Compile
