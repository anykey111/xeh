/-
The structural evaluator in sequenced form. A statement of `evalS` is "evaluate a part, go on
according to how it ended" (`Res.next`) or "run a machine operation, go on if it answered" (`ofR`); the equations
below say so once per construct, and every induction over `evalS` goes through them. Also here: the opcodes of the
structured fragment in the evaluator's vocabulary.
-/
import XehModel.Model.Structured
import XehModel.Proofs.VMBind

namespace Xeh.Structured
open Xeh Xeh.Mach

def Res.next (r : Res) (ok : Mach → Res) (brk : Nat → Mach → Res) (exit : Mach → Res) : Res :=
  match r with
  | .ok m => ok m
  | .brk t m => brk t m
  | .exitCase m => exit m
  | r => r

def Res.good : Res → Option Mach
  | .ok m | .brk _ m | .exitCase m => some m
  | _ => none

section equations
variable (np : String → Option Prog) (F : FunTab) (f : Nat) (m : Mach)

theorem evalS_zero (st : Stmt) : evalS np F 0 st m = .timeout := by rw [evalS]
theorem doIter_zero (tl : Nat) (a : Stmt) : doIter np F 0 tl a m = .timeout := by rw [doIter]

theorem evalS_skip : evalS np F (f + 1) .skip m = .ok m := by rw [evalS]

theorem evalS_op (t : Nat) (o : Op) :
    evalS np F (f + 1) (.op t o) m = ofR (straightEff np m o) t fun _ m => .ok m := by rw [evalS]

theorem evalS_seq (a b : Stmt) :
    evalS np F (f + 1) (.seq a b) m = (evalS np F f a m).next (evalS np F f b) .brk .exitCase := by
  rw [evalS]; cases evalS np F f a m <;> rfl

theorem evalS_ifThen (t : Nat) (a : Stmt) :
    evalS np F (f + 1) (.ifThen t a) m = ofR (popCond m) t fun c m => if c then evalS np F f a m else .ok m := by
  rw [evalS]

theorem evalS_ifElse (t te : Nat) (a b : Stmt) :
    evalS np F (f + 1) (.ifElse t te a b) m =
      ofR (popCond m) t fun c m => if c then evalS np F f a m else evalS np F f b m := by
  rw [evalS]

theorem evalS_until (t : Nat) (a : Stmt) :
    evalS np F (f + 1) (.untilLoop t a) m = (evalS np F f a m).next
      (fun m => ofR (popCond m) t fun c m => if c then .ok m else evalS np F f (.untilLoop t a) m) .brk .exitCase := by
  rw [evalS]; cases evalS np F f a m <;> rfl

theorem evalS_while (tw tr : Nat) (c a : Stmt) :
    evalS np F (f + 1) (.whileLoop tw tr c a) m = (evalS np F f c m).next
      (fun m => ofR (popCond m) tw fun b m =>
        if b then (evalS np F f a m).next (evalS np F f (.whileLoop tw tr c a)) (fun _ m => .ok m) .exitCase
        else .ok m)
      .brk .exitCase := by
  rw [evalS]; cases evalS np F f c m <;> try rfl
  dsimp only [Res.next]
  congr; funext b m; split <;> try rfl
  cases evalS np F f a m <;> rfl

theorem evalS_repeat (tr : Nat) (a : Stmt) :
    evalS np F (f + 1) (.repeatLoop tr a) m =
      (evalS np F f a m).next (evalS np F f (.repeatLoop tr a)) (fun _ m => .ok m) .exitCase := by
  rw [evalS]; cases evalS np F f a m <;> rfl

theorem evalS_do (td tl : Nat) (a : Stmt) :
    evalS np F (f + 1) (.doLoop td tl a) m =
      ofR m.doInit td fun l m => if l.start < l.stop then doIter np F f tl a (m.pushLoop l) else .ok m := by
  rw [evalS]

theorem evalS_brk (t : Nat) : evalS np F (f + 1) (.brk t) m = .brk t m := by rw [evalS]

theorem evalS_caseS (a : Stmt) : evalS np F (f + 1) (.caseS a) m = (evalS np F f a m).next .ok .brk .ok := by
  rw [evalS]; cases evalS np F f a m <;> rfl

theorem evalS_arm (tOf tEndof : Nat) (body : Stmt) :
    evalS np F (f + 1) (.arm tOf tEndof body) m = ofR (caseTest m) tOf fun hit m =>
      if hit then (evalS np F f body m).next .exitCase .brk .exitCase else .ok m := by
  rw [evalS]; congr; funext hit m; split <;> try rfl
  cases evalS np F f body m <;> rfl

theorem evalS_defn (tc ts : Nat) (body : Stmt) : evalS np F (f + 1) (.defn tc ts body) m = .ok m := by rw [evalS]

theorem evalS_call (t addr ret : Nat) {body : Stmt} {ts : Nat} (h : F addr = some (body, ts)) :
    evalS np F (f + 1) (.call t addr ret) m =
      (evalS np F f body (m.pushReturn { fnAddr := addr, returnTo := ret, locals := [] })).next
        (fun m => ofR m.popReturn ts fun _ m => .ok m)
        (fun t m => .panic "model: break escaping a definition" t m)
        (fun m => .panic "model: endof escaping a definition" ts m) := by
  rw [evalS]; simp only [h]
  cases evalS np F f body _ <;> rfl

theorem evalS_call_none (t addr ret : Nat) (h : F addr = none) :
    evalS np F (f + 1) (.call t addr ret) m = .panic "model: call of a word outside the function table" 0 m := by
  rw [evalS]; simp only [h]

theorem doIter_succ (tl : Nat) (a : Stmt) :
    doIter np F (f + 1) tl a m = (evalS np F f a m).next
      (fun m => ofR m.loopNext tl fun more m =>
        if more then doIter np F f tl a m else ofR m.popLoop tl fun _ m => .ok m)
      (fun tb m => ofR m.popLoop tb fun _ m => .ok m) .exitCase := by
  rw [doIter]; cases evalS np F f a m <;> rfl

end equations

/-- what holds of every continuation's result and of every failure at `t` holds of `ofR x t k` -/
theorem ofR_cases {α : Type} {P : Res → Prop} (x : R α) (t : Nat) (k : α → Mach → Res)
    (hok : ∀ a m, x = (.ok a, m) → P (k a m)) (herr : ∀ e m, x = (.err e, m) → P (.err e t m))
    (hpanic : ∀ p m, x = (.panic p, m) → P (.panic p t m)) : P (ofR x t k) := by
  obtain ⟨o, m⟩ := x
  cases o with
  | ok a => exact hok a m rfl
  | err e => exact herr e m rfl
  | panic p => exact hpanic p m rfl

theorem ofR_eq_ok {α : Type} {x : R α} {t : Nat} {k : α → Mach → Res} {m' : Mach} (h : ofR x t k = .ok m') :
    ∃ a m1, x = (.ok a, m1) ∧ k a m1 = .ok m' := by
  rcases R.cases x with ⟨a, m1, e⟩ | ⟨_, m1, e⟩ | ⟨_, m1, e⟩ <;> subst e
  · exact ⟨a, m1, rfl, h⟩
  · cases h
  · cases h

theorem execBody_straight (np : String → Option Prog) (m : Mach) (ip : Nat) {o : Op} (hs : straight o = true) :
    execBody np m ip o = bindR (straightEff np m o) fun _ m => (.ok .next, m) := by
  cases o <;> cases hs <;> try rfl
  all_goals simp only [execBody, straightEff]
  case native name => cases np name <;> rfl
  case load idx => cases m.cellRef idx <;> rfl
  case store idx => rcases R.cases m.popData with ⟨v, m1, h⟩ | ⟨e, m1, h⟩ | ⟨s, m1, h⟩ <;> rw [h] <;> rfl
  case initLocal idx => rcases R.cases m.popData with ⟨v, m1, h⟩ | ⟨e, m1, h⟩ | ⟨s, m1, h⟩ <;> rw [h] <;> rfl
  case loadLocal i =>
    cases m.topFrame <;> try rfl
    rename_i fr
    simp only [bindR_ok]
    cases fr.locals[i]? <;> rfl

theorem execBody_jumpIfNot (np : String → Option Prog) (m : Mach) (ip : Nat) (rel : Int) :
    execBody np m ip (.jumpIfNot rel) =
      bindR (popCond m) fun b m => (.ok (if b then .next else .to (calcJump ip rel)), m) := by
  simp only [execBody, popCond]
  rcases R.cases m.popData with ⟨c, m1, h⟩ | ⟨e, m1, h⟩ | ⟨s, m1, h⟩ <;> rw [h] <;> try rfl
  simp only [bindR_ok]
  cases c.condTrue <;> rfl

theorem execBody_caseOf (np : String → Option Prog) (m : Mach) (ip : Nat) (rel : Int) :
    execBody np m ip (.caseOf rel) =
      bindR (caseTest m) fun hit m => (.ok (if hit then .next else .to (calcJump ip rel)), m) := by
  simp only [execBody, caseTest]
  rcases R.cases m.popData with ⟨a, m1, h⟩ | ⟨e, m1, h⟩ | ⟨s, m1, h⟩ <;> rw [h] <;> try rfl
  simp only [bindR_ok]
  rcases R.cases m1.topData with ⟨b, m2, h⟩ | ⟨e, m2, h⟩ | ⟨s, m2, h⟩ <;> rw [h] <;> try rfl
  simp only [bindR_ok]
  split <;> try rfl
  rcases R.cases m2.popData with ⟨c, m3, h⟩ | ⟨e, m3, h⟩ | ⟨s, m3, h⟩ <;> rw [h] <;> rfl

def NoBrk (r : Res) : Prop := ∀ t m, r ≠ .brk t m

def NoExit (r : Res) : Prop := ∀ m, r ≠ .exitCase m

end Xeh.Structured
