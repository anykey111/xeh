/-
The flow-stack compiler (Model/Compile.lean: pending flows, jumps emitted with distance 0 and backpatched when the
closing word arrives) emits exactly what the compositional compiler `compileS` emits for the tree `parseS` reads off
the same tokens (`flow_compiler_agrees2`, FlowSim2.lean).  This file: what each opening and closing word does to a
compiler state whose code and flow stack have a known shape and nothing pending above the entry being closed.
-/
import XehModel.Model.ParseS

namespace Xeh.Structured
open Xeh Xeh.Mach Xeh.Compile Xeh.Compile.CState

theorem compileS_len (st : Stmt) : ∀ (bk : BK) (ce : Option Nat), (compileS st bk ce).length = size st := by
  induction st with
  | skip => intro _ _; rfl
  | op t o => intro _ _; rfl
  | seq a b iha ihb => intro bk ce; simp [compileS, size, iha, ihb]
  | ifThen t a ih => intro bk ce; simp [compileS, size, ih]; omega
  | ifElse t te a b iha ihb => intro bk ce; simp [compileS, size, iha, ihb]; omega
  | untilLoop t a ih => intro bk ce; simp [compileS, size, ih]
  | whileLoop tw tr c a ihc iha => intro bk ce; simp [compileS, size, ihc, iha]; omega
  | repeatLoop tr a ih => intro bk ce; simp [compileS, size, ih]
  | doLoop td tl a ih => intro bk ce; simp [compileS, size, ih]; omega
  | brk t => intro bk ce; cases bk <;> rfl
  | caseS a ih => intro bk ce; simp [compileS, size, ih]
  | arm tOf tEndof body ih => intro bk ce; simp [compileS, size, ih]; omega
  | defn tc ts body ih => intro bk ce; simp [compileS, size, ih]; omega
  | call t addr ret => intro bk ce; rfl

theorem size_seqs : ∀ l : List Stmt, size (seqs l) = (l.map size).sum
  | [] => rfl
  | [x] => by simp [seqs]
  | x :: y :: r => by
    have ih := size_seqs (y :: r)
    simp only [seqs, size, ih, List.map_cons, List.sum_cons]

theorem getElem?_mid {α : Type} (base : List α) (x : α) (body : List α) : (base ++ x :: body)[base.length]? = some x := by
  simp

theorem set_mid {α : Type} (base : List α) (x y : α) (body : List α) :
    (base ++ x :: body).set base.length y = base ++ y :: body := by
  simp

theorem fromTo_fwd (a n : Nat) : fromTo a (a + n) = (n : Int) := by unfold fromTo; omega
theorem fromTo_back (a n : Nat) : fromTo (a + n) a = -(n : Int) := by unfold fromTo; omega

theorem close_until (s : CState) (base body : List Op) (fl : List Flow)
    (hc : s.code = base ++ body) (hf : s.flows = .beginF base.length :: fl) :
    immediate s "until" = .ok { s with flows := fl, code := base ++ body ++ [Op.jumpIfNot (-(body.length : Int))], dmap := s.dmap ++ [s.lastTok] } := by
  conv => lhs; whnf
  simp only [CState.popFlow, hf, CState.emit, CState.origin, hc, List.length_append, fromTo_back]

theorem close_repeat (s : CState) (base body : List Op) (fl : List Flow)
    (hc : s.code = base ++ body) (hf : s.flows = .beginF base.length :: fl) :
    immediate s "repeat" = .ok { s with flows := fl, code := base ++ body ++ [Op.jump (-(body.length : Int))], dmap := s.dmap ++ [s.lastTok] } := by
  conv => lhs; whnf
  simp only [CState.popFlow, hf, CState.emit, CState.origin, hc, List.length_append, fromTo_back]

theorem close_repeat_while (s : CState) (base C A : List Op) (fl : List Flow)
    (hc : s.code = base ++ C ++ Op.jumpIfNot 0 :: A) (hf : s.flows = .whileF (base.length + C.length) :: .beginF base.length :: fl) :
    immediate s "repeat" = .ok { s with flows := fl, code := base ++ C ++ Op.jumpIfNot ((A.length + 2 : Nat) : Int) :: A ++ [Op.jump (-((C.length + 1 + A.length : Nat) : Int))], dmap := s.dmap ++ [s.lastTok] } := by
  have hl : (base ++ C).length = base.length + C.length := by simp
  conv => lhs; whnf
  simp only [CState.popFlow, hf]
  unfold backpatchJump
  simp only [hc, ← hl, getElem?_mid, set_mid]
  simp only [CState.origin, CState.emit, List.length_append, List.length_cons]
  have e1 : fromTo (base.length + C.length) (base.length + C.length + (A.length + 1) + 1) = ((A.length + 2 : Nat) : Int) := by
    unfold fromTo; omega
  have e2 : fromTo (base.length + C.length + (A.length + 1)) base.length = -((C.length + 1 + A.length : Nat) : Int) := by
    unfold fromTo; omega
  rw [e1, e2]

/-- the state an opening word leaves.  For `Xo ≠ []` the record updates of `open_if` … `open_builder` below are
    `opened s fo Xo` by unfolding, and FlowSim2 uses those equations at this spelling. -/
def opened (s : CState) (fo : Flow) (Xo : List Op) : CState :=
  { s with flows := fo :: s.flows, code := s.code ++ Xo, dmap := s.dmap ++ Xo.map fun _ => s.lastTok }

theorem open_if (s : CState) : immediate s "if" =
    .ok { s with flows := .ifF s.code.length :: s.flows, code := s.code ++ [Op.jumpIfNot 0], dmap := s.dmap ++ [s.lastTok] } := by
  rfl

theorem open_begin (s : CState) : immediate s "begin" = .ok { s with flows := .beginF s.code.length :: s.flows } := by
  rfl

/-- `open_begin` with the state spelt as the token-loop lemmas take it; `s.code ++ []` is not `s.code` by unfolding -/
theorem opened_begin (s : CState) : immediate s "begin" = .ok (opened s (.beginF s.code.length) []) := by
  simp [open_begin, opened]

theorem open_while (s : CState) : immediate s "while" =
    .ok { s with flows := .whileF s.code.length :: s.flows, code := s.code ++ [Op.jumpIfNot 0], dmap := s.dmap ++ [s.lastTok] } := by
  rfl

theorem open_do (s : CState) : immediate s "do" =
    .ok { s with flows := .doF s.code.length (s.code.length + 1) :: s.flows, code := s.code ++ [Op.doOp 0], dmap := s.dmap ++ [s.lastTok] } := by
  conv => lhs; whnf
  simp [CState.pushFlow, CState.emit, CState.origin]

theorem open_foreach (s : CState) : immediate s "foreach" =
    .ok { s with flows := .doF (s.code.length + 1) (s.code.length + 2) :: s.flows, code := s.code ++ [Op.native "<foreach-init>", Op.doOp 0, Op.native "<foreach-next>"], dmap := s.dmap ++ [s.lastTok, s.lastTok, s.lastTok] } := by
  conv => lhs; whnf
  simp [CState.pushFlow, CState.emit, CState.origin, emitNative]

theorem open_case (s : CState) : immediate s "case" = .ok (opened s .caseF []) := by
  conv => lhs; whnf
  simp [CState.pushFlow, opened]

theorem open_of (s : CState) : immediate s "of" = .ok (opened s (.caseOfF s.code.length) [.caseOf 0]) := by
  rfl

theorem open_builder (s : CState) :
    immediate s "[" = .ok { s with flows := .vecF :: s.flows, code := s.code ++ [Op.native "<vec-begin>"], dmap := s.dmap ++ [s.lastTok] } ∧
    immediate s "{" = .ok { s with flows := .mapF :: s.flows, code := s.code ++ [Op.native "<map-begin>"], dmap := s.dmap ++ [s.lastTok] } ∧
    immediate s "^{" = .ok { s with flows := .tagsF :: s.flows, code := s.code ++ [Op.native "<vec-begin>"], dmap := s.dmap ++ [s.lastTok] } := by
  exact ⟨rfl, rfl, rfl⟩

theorem imm_nil (s : CState) : immediate s "nil" = .ok (s.emit .loadNil) := rfl

theorem imm_base (s : CState) :
    immediate s "^hex" = .ok (emitNative (s.emit (Compile.loadValueOp (.int 16))) "<fmt-base>") ∧
    immediate s "^dec" = .ok (emitNative (s.emit (Compile.loadValueOp (.int 10))) "<fmt-base>") ∧
    immediate s "^oct" = .ok (emitNative (s.emit (Compile.loadValueOp (.int 8))) "<fmt-base>") ∧
    immediate s "^bin" = .ok (emitNative (s.emit (Compile.loadValueOp (.int 2))) "<fmt-base>") := by
  exact ⟨rfl, rfl, rfl, rfl⟩

theorem imm_fmt (s : CState) :
    immediate s "fmt/prefix" = .ok (s.emit (.native "<fmt-prefix>")) ∧
    immediate s "fmt/tags" = .ok (s.emit (.native "<fmt-tags>")) ∧
    immediate s "fmt/upcase" = .ok (s.emit (.native "<fmt-upcase>")) := by
  exact ⟨rfl, rfl, rfl⟩

theorem close_builder (s : CState) (fl : List Flow) :
    (s.flows = .vecF :: fl → immediate s "]" = .ok { s with flows := fl, code := s.code ++ [Op.native "<vec-end>"], dmap := s.dmap ++ [s.lastTok] }) ∧
    (s.flows = .mapF :: fl → immediate s "}" = .ok { s with flows := fl, code := s.code ++ [Op.native "<map-end>"], dmap := s.dmap ++ [s.lastTok] }) ∧
    (s.flows = .tagsF :: fl → immediate s "^}" = .ok { s with flows := fl, code := s.code ++ [Op.native "<tags-end>"], dmap := s.dmap ++ [s.lastTok] }) := by
  refine ⟨?_, ?_, ?_⟩ <;> intro hf <;> (conv => lhs; whnf) <;> simp only [CState.popFlow, hf] <;> rfl

theorem close_semi (s : CState) (base body : List Op) (ff : FunFlow) (fl : List Flow)
    (hc : s.code = base ++ Op.jump 0 :: body) (hf : s.flows = .funF ff :: fl) (hst : ff.start = base.length) :
    immediate s ";" = .ok { s with flows := fl, code := base ++ Op.jump ((body.length + 2 : Nat) : Int) :: (body ++ [Op.ret]), dmap := s.dmap ++ [s.lastTok] } := by
  conv => lhs; whnf
  simp only [CState.popFlow, hf, CState.emit]
  unfold backpatchJump
  have h1 : (base ++ Op.jump 0 :: body ++ [Op.ret])[ff.start]? = some (Op.jump 0) := by
    rw [hst, List.append_assoc]; simp
  simp only [hc, h1]
  have h2 : (base ++ Op.jump 0 :: body ++ [Op.ret]).set ff.start (Op.jump (fromTo ff.start
      ({ s with flows := fl, code := base ++ Op.jump 0 :: body ++ [Op.ret], dmap := s.dmap ++ [s.lastTok] } : CState).origin)) =
      base ++ Op.jump ((body.length + 2 : Nat) : Int) :: (body ++ [Op.ret]) := by
    have : ({ s with flows := fl, code := base ++ Op.jump 0 :: body ++ [Op.ret], dmap := s.dmap ++ [s.lastTok] } : CState).origin = base.length + (body.length + 2) := by
      simp [CState.origin] <;> omega
    rw [this, hst, fromTo_fwd, List.append_assoc]
    simp
  simp only [h2]

def termName : Term → String
  | .eof => "" | .thenT => "then" | .elseT => "else" | .untilT => "until" | .whileT => "while" | .repeatT => "repeat"
  | .loopT => "loop" | .endofT => "endof" | .endcaseT => "endcase" | .rbrack => "]" | .rbrace => "}" | .rtags => "^}"
  | .semiT => ";"

theorem termOf_inv (n : String) (t : Term) (h : termOf n = some t) : n = termName t := by
  unfold termOf at h
  split at h <;> simp at h <;> subst h <;> rfl

theorem topFun_cons (f : Flow) (fl : List Flow) (hf : ∀ ff, f ≠ .funF ff) : topFun (f :: fl) = topFun fl := by
  cases f <;> simp [topFun] at hf ⊢

/-! Two groups nothing else in the development uses: `codeS`, `fragL`, `frag_snoc`, `emit_frag` speak of the compositional
    compiler's code for a list of statements; `NoBad`, `noBadB`, `Match` are the hypotheses of `flow_compiler_agrees`
    (FlowSim2.lean). -/

def codeS (st : Stmt) : List (Op × Nat) := compileS st .none none

/-- the statements of a block, oldest first -/
def fragL (l : List Stmt) : List (Op × Nat) := l.flatMap codeS

def NoBad (dict : List (String × Entry)) (toks : List Tok) : Prop :=
  ∀ w, Tok.word w ∈ toks → ∀ n, dict.lookup w = some (.native true n) →
    n ≠ "break" ∧ n ≠ "case" ∧ n ≠ "of" ∧ n ≠ ":" ∧ n ≠ "local"

theorem NoBad.nil (dict : List (String × Entry)) : NoBad dict [] := fun w hw => by cases hw

theorem NoBad.tail {dict : List (String × Entry)} {t : Tok} {toks : List Tok} (h : NoBad dict (t :: toks)) : NoBad dict toks :=
  fun w hw => h w (List.mem_cons_of_mem _ hw)

theorem NoBad.var {dict : List (String × Entry)} {toks : List Tok} (h : NoBad dict toks) (name : String) (a : Nat) :
    NoBad ((name, .var a) :: dict) toks := by
  intro w hw n hl
  simp only [List.lookup] at hl
  split at hl
  · cases hl
  · exact h w hw n hl

def noBadB (dict : List (String × Entry)) (toks : List Tok) : Bool :=
  toks.all fun t => match t with
    | .word w => match dict.lookup w with
      | some (.native true n) => n != "break" && n != "case" && n != "of" && n != ":" && n != "local"
      | _ => true
    | _ => true

theorem noBad_of_b (dict : List (String × Entry)) (toks : List Tok) (h : noBadB dict toks = true) : NoBad dict toks := by
  intro w hw n hl
  unfold noBadB at h
  rw [List.all_eq_true] at h
  have := h _ hw
  simp only [hl, Bool.and_eq_true, bne_iff_ne, ne_eq] at this
  exact ⟨this.1.1.1.1, this.1.1.1.2, this.1.1.2, this.1.2, this.2⟩

structure Match (p : PState) (top : Bool) (s : CState) : Prop where
  dict : s.dict = p.dict
  heap : s.heapLen = p.heapLen
  lim : s.heapLimit = none
  notMeta : s.inMeta = false
  top : top = true → s.flows = [] ∧ s.hiddenFlows = 0
  noFun : topFun s.flows = none
  plocals : p.locals = none

theorem frag_snoc (acc : List Stmt) (x : Stmt) : fragL (x :: acc).reverse = fragL acc.reverse ++ codeS x := by
  simp [fragL]

theorem emit_frag (s : CState) (pre : List Op) (dpre : List Nat) (acc : List Stmt) (t : Nat) (o : Op)
    (hc : s.code = pre ++ (fragL acc.reverse).map (·.1)) (hd : s.dmap = dpre ++ (fragL acc.reverse).map (·.2)) :
    (({ s with lastTok := t } : CState).emit o).code = pre ++ (fragL (Stmt.op t o :: acc).reverse).map (·.1) ∧
    (({ s with lastTok := t } : CState).emit o).dmap = dpre ++ (fragL (Stmt.op t o :: acc).reverse).map (·.2) := by
  rw [frag_snoc]
  simp [CState.emit, hc, hd, codeS, compileS]

end Xeh.Structured

