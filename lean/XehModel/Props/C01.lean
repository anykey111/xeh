/-
C01 — structured control flow compiles to bytecode that means what the source says.

Two models (DESIGN Appendix B):
  (1) the faithful flow-stack compiler with backpatching (Model/Compile.lean) + the VM (Model/VM.lean) —
      tied to the code by `C01 build` / `C01 eval` correspondence (identical bytecode, debug map, error and
      token; identical machine after running);
  (2) the structural reading: `parseS` (tokens → syntax tree), `compileS` (a compositional compiler, no flow
      stack, no backpatching), `evalS` (a direct big-step evaluator that never looks at an instruction pointer,
      a jump distance or bytecode) — Model/Structured.lean, Model/ParseS.lean.
What is decided how:
  * VM run of `compileS st` = `evalS st` — THEOREM `compiled_code_means_what_the_source_says` (below), proved by
    forward simulation (Proofs/StructSim.lean, `sim_all`) for every program of the structured fragment (control
    structures, definitions, calls, recursion, locals, variables), every machine, every fuel: same data stack, variables, output (everything but log/meter/ip) when the program
    completes, or the same error at an instruction the debug map attributes to the same token;
  * `compileS (parseS toks)` = the flow-stack compiler's bytecode and debug map — THEOREM
    `flow_compiler_emits_compileS` (Proofs/FlowSim*.lean), for every token list `parseS` accepts; composed with the
    first: `source_means_what_it_says`;
  * through the interpreter's entry point — THEOREM `eval_means_what_the_source_says`: a fresh session of the
    session model (Model/Session.lean) given the tokens through `build_from_source` in eval mode answers *done* /
    *failed* exactly as the structural evaluator says, with the evaluator's machine and debug map; it rests on
    `Session.tokens_is_compileToks` (Proofs/SessionCompile.lean): outside meta blocks the session's token loop IS the
    flow-stack compiler;
  * word definitions, calls (recursion included) and locals are in the structured fragment: a call node
    names the entry address of the callee and the return address the compiler assigns (the evaluator copies it into
    the frame it pushes and never looks at it); the function table is read off the tree (`tabOf`), and the theorem
    shows that it describes the code (`funsOf_ok`). Redefinition is the parser binding a name to the newest entry.
    `late` binding and `immediate` words remain outside `Stmt` (faithful compiler + VM models, correspondence).
-/
import XehModel.Proofs.FlowSim2
import XehModel.Proofs.StructSim
import XehModel.Proofs.SessionCompile
import XehModel.Props.C15

namespace Xeh.C01
open Xeh Xeh.Mach Xeh.Structured

/-- the compositional compiler emits exactly `size st` opcodes, in every context -/
theorem compileS_length (st : Stmt) (bk : BK) (ce : Option Nat) : (compileS st bk ce).length = size st :=
  Structured.compileS_length st bk ce

/-- a statement in a context where `break` is not allowed never evaluates to a travelling break -/
theorem no_stray_break (np : String → Option Prog) (F : FunTab) (f : Nat) (st : Stmt) (m : Mach) (r : Bool)
    (hw : WFS st false r = true) : NoBrk (evalS np F f st m) := (no_brk_aux np F f).1 st m r hw

/-- a counted loop absorbs every `break` of its body -/
theorem counted_loop_never_breaks_out (np : String → Option Prog) (F : FunTab) (f : Nat) (tl : Nat) (a : Stmt) (m : Mach) :
    NoBrk (doIter np F f tl a m) := (no_brk_aux np F f).2 tl a m

def NoOk (r : Res) : Prop := ∀ m, r ≠ .ok m

/-- "a loop that structurally never terminates never falls through": `begin body repeat` whose body
    contains no `break` for this loop never completes normally — for every body, machine and amount of fuel
    (it fails, or it is still running when any finite budget is exhausted) -/
theorem endless_repeat_never_falls_through (np : String → Option Prog) (F : FunTab) (tr : Nat) (a : Stmt)
    (hw : WFS a false false = true) : ∀ (f : Nat) (m : Mach), NoOk (evalS np F f (.repeatLoop tr a) m) := by
  intro f
  induction f with
  | zero => intro m m' e; rw [evalS_zero] at e; cases e
  | succ f ih =>
    intro m m' e
    rw [evalS_repeat] at e
    cases hr : evalS np F f a m with
    | ok m1 => rw [hr] at e; exact ih m1 m' e
    | brk t m1 => exact no_stray_break np F f a m false hw t m1 hr
    | _ => rw [hr] at e; cases e

/-- a condition that was just pushed is the one `until` pops -/
theorem popCond_pushed {m m2 m3 : Mach} {b c : Bool} (h : m.pushData (.flag b) = (.ok (), m2))
    (hp : popCond m2 = (.ok c, m3)) : c = b := by
  have hds : m2.ds = .flag b :: m.ds := by
    unfold pushData at h
    split at h
    · split at h
      · cases h
      · cases h; rfl
    · cases h; rfl
  simp only [popCond, popData, hds] at hp
  split at hp
  · rename_i c2 m5 hpd
    split at hpd
    · cases hpd
      simp only [Cell.condTrue] at hp
      cases hp; rfl
    · cases hpd
  · cases hp
  · cases hp

/-- `begin body false until` never completes normally either -/
theorem endless_until_never_falls_through (np : String → Option Prog) (F : FunTab) (t t' : Nat) (a : Stmt) :
    ∀ (f : Nat) (m : Mach), NoOk (evalS np F f (.untilLoop t (.seq a (.op t' (.loadCell (.flag false))))) m) := by
  intro f
  induction f with
  | zero => intro m m' e; rw [evalS_zero] at e; cases e
  | succ f ih =>
    intro m m' e
    rw [evalS_until] at e
    cases hb : evalS np F f (.seq a (.op t' (.loadCell (.flag false)))) m with
    | ok m2 =>
      rw [hb] at e
      obtain ⟨c, m3, hp, e⟩ := ofR_eq_ok e
      -- the body ended normally: its last action pushed `false`, so `until` goes round again
      have hc : c = false := by
        cases f with
        | zero => rw [evalS_zero] at hb; cases hb
        | succ f1 =>
          rw [evalS_seq] at hb
          cases ha : evalS np F f1 a m with
          | ok m1 =>
            rw [ha] at hb
            change evalS np F f1 _ m1 = _ at hb
            cases f1 with
            | zero => rw [evalS_zero] at hb; cases hb
            | succ f2 =>
              rw [evalS_op] at hb
              obtain ⟨_, _, hpush, h2⟩ := ofR_eq_ok hb
              cases h2
              exact popCond_pushed hpush hp
          | _ => rw [ha] at hb; cases hb
      subst hc
      exact ih m3 m' e
    | _ => rw [hb] at e; cases e

/-- **a terminated counted loop leaves no loop index visible to later code**: when `do … loop` completes — after
    any number of iterations, zero included, normally or by `break` — the loop stack is exactly the one before
    the loop (so `I` afterwards sees what it saw before; with the main theorem below the same holds of the VM,
    whose loop stack agrees with the evaluator's) -/
theorem counted_loop_leaves_no_index (np : String → Option Prog) (F : FunTab)
    (hFw : ∀ addr body ts, F addr = some (body, ts) → WFS body false false = true)
    (f : Nat) (td tl : Nat) (a : Stmt) (m m' : Mach)
    (hw : WFS a true false = true) (h : evalS np F f (.doLoop td tl a) m = .ok m') : m'.loops = m.loops :=
  Structured.counted_loop_leaves_no_index np F hFw f td tl a m m' hw h

/-- `I` `J` `K` see the loops of the program that is running, i.e. the loop records **above the current context's
    mark**: with fewer than `n + 1` of those the word fails with LoopStackUnderflow and changes nothing — however many
    records lie below the mark (left there by a program that failed inside its loops and stays paused: the next source's
    context starts above them; seeded change C01/10 indexed the whole stack) -/
theorem loop_index_sees_only_its_own_loops (n : Nat) (m : Mach) (h : m.loops.length - m.ctx.lsLen ≤ n) :
    runProg (wordCounter n) m = (.err .loopStackUnderflow, m) := by
  have : (m.loops.take (m.loops.length - m.ctx.lsLen))[n]? = none := by
    apply List.getElem?_eq_none
    simp only [List.length_take]
    omega
  simp only [wordCounter, runProg, this]

/-- every statement that completes leaves the loop stack as deep as it found it -/
theorem completion_keeps_loops (np : String → Option Prog) (F : FunTab)
    (hFw : ∀ addr body ts, F addr = some (body, ts) → WFS body false false = true)
    (f : Nat) (st : Stmt) (m m' : Mach) (k r : Bool)
    (hw : WFS st k r = true) (h : evalS np F f st m = .ok m') : m'.loops.length = m.loops.length :=
  (Structured.completion_keeps_loops np F hFw f st m m' k r hw h).1

/-- the bytecode and the debug map of a whole program -/
def codeOf (st : Stmt) : List Op := (compileS st .none none).map (·.1)
def dmapOf (st : Stmt) : List Nat := (compileS st .none none).map (·.2)

/-- **C01, main theorem (structured fragment).** Take any well-formed program `st` of the structured fragment
    (every nesting of literals, native words, variable loads/stores, if/else/then, case/of/endof/endcase,
    begin/until, begin/while/repeat, begin/repeat, do/loop, break, word definitions, calls — recursive ones too —
    and locals; empty bodies and zero-trip loops included) whose calls are placed (`placed`: what `parseS` checks),
    any machine `m` that holds its compiled code and stands at its first opcode, and any amount of fuel for
    the structural evaluator. Then the VM does what the evaluator says:
    * if the evaluator completes in `m'`, the VM — after finitely many successful steps — stands at the end
      of the code in a machine that agrees with `m'` on data stack, variables (heap), output, loop stack,
      return stack, builder stack, dictionary and code (everything but log, meter, ip);
    * if the evaluator fails with error `e` at the opcode of token `tok`, the VM — after finitely many
      successful steps — executes an instruction that the debug map attributes to `tok`, that instruction
      fails with the same `e`, and the machine it leaves agrees with the evaluator's;
    * the evaluator never lets a `break` or a finished `of … endof` arm escape a whole program. -/
theorem compiled_code_means_what_the_source_says (np : String → Option Prog) (st : Stmt) (f : Nat) (m : Mach)
    (hw : WFS st false false = true) (hpl : placed (tabOf st) st 0 = true) (hsize : size st < 2^62)
    (hcode : m.code = codeOf st) (hip : m.ctx.ip = 0) (hwf : WF m) (hlim : m.insnLimit = none) :
    match evalS np (tabOf st) f st m with
    | .ok m' => ∃ n mv, C02.stepN np n m = some mv ∧ mv.ctx.ip = (codeOf st).length ∧ normX mv = normX m'
    | .err e tok m' => ∃ n mv mv', C02.stepN np n m = some mv ∧ step np mv = (.err e, mv') ∧ normX mv' = normX m' ∧
        (dmapOf st)[mv.ctx.ip]? = some tok
    | .panic p tok m' => ∃ n mv mv', C02.stepN np n m = some mv ∧ step np mv = (.panic p, mv') ∧ normX mv' = normX m' ∧
        (dmapOf st)[mv.ctx.ip]? = some tok
    | .brk _ _ => False
    | .exitCase _ => False
    | .timeout => True := by
  have hl : (codeOf st).length = size st := by simp [codeOf, Structured.compileS_length]
  have hca : CodeAt (codeOf st) (dmapOf st) 0 (compileS st .none none) := by
    intro i hi
    simp [codeOf, dmapOf, List.getElem?_map, List.getElem?_eq_getElem hi]
  -- the function table read off the tree describes the code
  have hF : FunsOK (codeOf st) (dmapOf st) (tabOf st) := by
    intro addr body ts hFa
    simp only [tabOf, Option.map_eq_some_iff] at hFa
    obtain ⟨e, he, hb⟩ := hFa
    have hmem := List.mem_of_find?_eq_some he
    have haddr : e.1 = addr := by simpa using List.find?_some he
    have := funsOf_ok (tabOf st) (codeOf st) (dmapOf st) st .none none 0 false false hca hw hpl e hmem
    rw [hb] at this
    simpa [haddr] using this
  have h := (sim_all np (tabOf st) (codeOf st) (dmapOf st) (by rw [hl]; exact hsize) hF f).1 st .none none 0 m m
    ⟨hwf, hlim, hcode⟩ (Rel.refl m) hip hca (by simpa using hw) trivial (by simp [hl]) hpl
  have hne := (no_exit_aux np (tabOf st) f).1 st m false hw
  revert h hne
  generalize evalS np (tabOf st) f st m = r
  intro h hne
  cases r with
  | ok m' =>
    obtain ⟨n, mv, hs, hipv, hr, _⟩ := h
    exact ⟨n, mv, hs, by rw [hipv, hl]; omega, hr⟩
  | err e tok m' =>
    obtain ⟨n, mv, mv', hs, hst, _, hr, hd⟩ := h
    exact ⟨n, mv, mv', hs, hst, hr, hd⟩
  | panic p tok m' =>
    obtain ⟨n, mv, mv', hs, hst, _, hr, hd⟩ := h
    exact ⟨n, mv, mv', hs, hst, hr, hd⟩
  | brk t m' => obtain ⟨ipb, _, bb⟩ := h; exact bb.2
  | exitCase m' => exact absurd rfl (hne m')
  | timeout => trivial

/-- the hypotheses on the program, the instruction pointer and the marks are satisfiable: a counted loop with an empty body, on
    the machine that holds its code -/
example : WFS (.doLoop 0 1 .skip) false false = true ∧ size (.doLoop 0 1 .skip) < 2^62 ∧
    (({ code := codeOf (.doLoop 0 1 .skip) } : Mach).ctx.ip = 0) ∧ WF ({ code := codeOf (.doLoop 0 1 .skip) } : Mach) :=
  ⟨rfl, by decide, rfl, ⟨Nat.le_refl _, Nat.le_refl _, Nat.le_refl _, Nat.le_refl _⟩⟩

open Xeh.Compile in
/-- `parseS` only answers for well-formed, placed programs -/
theorem parseS_wf (toks : List Tok) (ps ps' : PState) (st : Stmt) (h : parseS toks ps = some (st, ps')) :
    WFS st false false = true ∧ placed (tabOf st) st 0 = true := by
  unfold parseS at h
  split at h
  · split at h
    · rename_i hw
      simp only [Option.some.injEq, Prod.mk.injEq] at h
      obtain ⟨rfl, _⟩ := h
      simpa using hw
    · cases h
  · cases h

open Xeh.Compile in
/-- **the flow-stack compiler emits `compileS (parseS toks)`**, for EVERY token list `parseS` accepts — the whole
    structured fragment, in every nesting: literals, constants, variables, calls, native words, if/else/then,
    case/of/endof/endcase, begin/until, begin/while/repeat, begin/repeat, do/loop, foreach, `break` in every kind
    of loop (its jump is emitted with distance 0, stays on the pending-flow stack across the conditionals and case
    arms that enclose it, and is patched — or turned into a `Break` opcode — when the loop closes), `[ ]`, `{ }`,
    `^{ ^}`, `var`, `!`, `defined`, format words, word definitions (the name is bound before the body is read, so
    recursive calls compile) and locals (declared anywhere in the body, shadowing resolved right-most first).
    The compiler model is the faithful transliteration of state.rs (Model/Compile.lean: pending-flow stack,
    `take_first_cond_flow` skipping `Break` entries, backpatching), tied to the real compiler by the `build`
    correspondence.  It starts on a state that matches the parser's (`Structured.Match2`: same dictionary and heap
    size, no heap limit, outside a meta block), with nothing pending and no definition open.
    Outside `parseS`'s domain (and therefore outside this theorem): `late`, user-defined immediate words, meta blocks. -/
theorem flow_compiler_emits_compileS (toks : List Tok) (ps ps' : PState) (st : Stmt) (s0 : CState)
    (hp : parseS toks ps = some (st, ps')) (hm : Structured.Match2 ps s0) (hloc : ps.locals = none)
    (hfl : s0.flows = []) (hhid : s0.hiddenFlows = 0) (hpc : s0.code.length = ps.pc) :
    ∃ s, compileToks toks 0 s0 = .ok s ∧ s.code = s0.code ++ codeOf st ∧ s.dmap = s0.dmap ++ dmapOf st ∧
      s.dict = ps'.dict ∧ s.heapLen = ps'.heapLen ∧ s.flows = [] :=
  Structured.flow_compiler_agrees2 toks ps ps' st s0 hp hm hloc hfl hhid hpc

open Xeh.Compile in
/-- **end to end**: compile the tokens with the flow-stack compiler on an idle machine with no code yet, load what it
    emitted, and the VM does what the structural evaluator says about the tree `parseS` reads off the same tokens -/
theorem source_means_what_it_says (np : String → Option Prog) (toks : List Tok) (m : Mach) (f : Nat)
    (st : Stmt) (ps' : PState)
    (hip : m.ctx.ip = 0) (hwf : WF m) (hlim : m.insnLimit = none)
    (hp : parseS toks { dict := m.dict, heapLen := m.heap.length } = some (st, ps')) (hsize : size st < 2^62) :
    ∃ s, compileToks toks 0 { dict := m.dict, heapLen := m.heap.length } = .ok s ∧ s.dmap = dmapOf st ∧
      let m1 : Mach := { m with code := s.code, dict := s.dict,
                                heap := m.heap ++ List.replicate (s.heapLen - m.heap.length) Cell.nil }
      match evalS np (tabOf st) f st m1 with
      | .ok m' => ∃ n mv, C02.stepN np n m1 = some mv ∧ mv.ctx.ip = (codeOf st).length ∧ normX mv = normX m'
      | .err e tok m' => ∃ n mv mv', C02.stepN np n m1 = some mv ∧ step np mv = (.err e, mv') ∧ normX mv' = normX m' ∧
          (dmapOf st)[mv.ctx.ip]? = some tok
      | .panic p tok m' => ∃ n mv mv', C02.stepN np n m1 = some mv ∧ step np mv = (.panic p, mv') ∧ normX mv' = normX m' ∧
          (dmapOf st)[mv.ctx.ip]? = some tok
      | .brk _ _ => False
      | .exitCase _ => False
      | .timeout => True := by
  obtain ⟨hw, hpl⟩ := parseS_wf toks _ _ st hp
  obtain ⟨s, hc, hcode, hdm, _, _, _⟩ := flow_compiler_emits_compileS toks _ ps' st
    { dict := m.dict, heapLen := m.heap.length } hp ⟨rfl, rfl, rfl, rfl⟩ rfl rfl rfl rfl
  refine ⟨s, hc, by simpa using hdm, ?_⟩
  exact compiled_code_means_what_the_source_says np st f _ hw hpl hsize (by simpa using hcode) hip
    ⟨hwf.ds, hwf.rs, hwf.ls, hwf.ss⟩ hlim

open Xeh.Compile in
/-- non-vacuity: `: sq local x x x * ; 5 0 do I 3 == if break then I sq 1 case 1 of 7 endof endcase loop` — a
    definition with a local, a `break` inside a conditional inside a counted loop, a call, a case with one arm — is
    accepted by `parseS` (the only hypothesis about the program; `Match2` holds for the empty compiler state by `rfl`) -/
example :
    let dict : List (String × Entry) := [("do", .native true "do"), ("loop", .native true "loop"), ("if", .native true "if"),
      ("then", .native true "then"), ("break", .native true "break"), ("case", .native true "case"), ("of", .native true "of"),
      ("endof", .native true "endof"), ("endcase", .native true "endcase"), ("I", .native false "I"), ("==", .native false "=="),
      (":", .native true ":"), (";", .native true ";"), ("local", .native true "local"), ("*", .native false "*")]
    let toks : List Tok := [.word ":", .word "sq", .word "local", .word "x", .word "x", .word "x", .word "*", .word ";",
      .lit (.int 5), .lit (.int 0), .word "do", .word "I", .lit (.int 3), .word "==", .word "if", .word "break",
      .word "then", .word "I", .word "sq", .lit (.int 1), .word "case", .lit (.int 1), .word "of", .lit (.int 7), .word "endof",
      .word "endcase", .word "loop"]
    (parseS toks { dict := dict, heapLen := 0 }).isSome = true := by decide +kernel

open Xeh.Session in
/-- opening a context in the mode the machine is in keeps the marks inside the stacks -/
theorem wf_contextOpen (s : Sess) (mode : Mode) (h : s.m.ctx.mode = mode) (w : WF s.m) : WF (s.contextOpen mode).m :=
  ⟨by simp only [Sess.contextOpen, h, if_true]; exact w.ds, Nat.le_refl _, Nat.le_refl _, Nat.le_refl _⟩

open Xeh.Session Xeh.Session.Sess in
/-- **`eval` of a structured source means what the source says.**  A fresh interpreter session `s` — no code yet,
    nothing pending, in eval mode, no instruction or heap limit; any dictionary, any data stack, any variables — is given
    the tokens through `build_from_source` in eval mode (what `Xstate::eval` does).  `st` is the tree `parseS` reads off
    the tokens.  If the structural evaluator finishes (`ok`): for all sufficient fuel, `eval` answers *done* and the
    session's machine agrees with the evaluator's (data stack, variables, output, loop/return/builder stacks: `normX`),
    with the debug map of the tree.  If the evaluator fails at token `tok` with an error that is not one of the
    model's gap markers: `eval` answers *failed* with the same error, the machine agrees, and the debug map entry under
    the instruction pointer is `tok`. -/
theorem eval_means_what_the_source_says (toks : List Compile.Tok) (s : Sess) (f : Nat) (st : Stmt) (ps' : PState)
    (hcode : s.m.code = []) (hdmap : s.dmap = []) (hflows : s.flows = []) (hmode : s.m.ctx.mode = .eval)
    (hwf : WF s.m) (hlim : s.m.insnLimit = none) (hhl : s.m.heapLimit = none)
    (hp : parseS toks { dict := s.m.dict, heapLen := s.m.heap.length } = some (st, ps')) (hsize : size st < 2^62) :
    ∃ m1 : Mach, m1.ds = s.m.ds ∧ m1.code = codeOf st ∧
      match evalS nativeProg (tabOf st) f st m1 with
      | .ok m' => ∃ n, ∀ k, ∃ mv, normX mv = normX m' ∧
          s.buildSource (n + k) .eval toks =
            .done { s with m := { mv with ctx := { s.m.ctx with ip := mv.ctx.ip } }, dmap := dmapOf st, lastTok := toks.length }
      | .err e tok m' => isModelGap (.err e : Outcome Unit) = false → ∃ n, ∀ k, ∃ mv, normX mv = normX m' ∧
          (dmapOf st)[mv.ctx.ip]? = some tok ∧
          s.buildSource (n + k) .eval toks = .failed e { s with m := mv, dmap := dmapOf st, lastTok := toks.length }
      | _ => True := by
  -- the machine `eval` runs the program on: the session's machine under the context `eval` opens (with what the build
  -- logged forgotten: `forgetBuildLog` touches the reverse log only)
  have hwf0 : WF (forgetBuildLog s.m (s.contextOpen .eval).m) :=
    have w := wf_contextOpen s .eval hmode hwf
    ⟨w.ds, w.rs, w.ls, w.ss⟩
  have hip0 : (forgetBuildLog s.m (s.contextOpen .eval).m).ctx.ip = 0 := by simp [forgetBuildLog, Sess.contextOpen, hcode]
  obtain ⟨sc, hc, hd, hrest⟩ := source_means_what_it_says nativeProg toks (forgetBuildLog s.m (s.contextOpen .eval).m) f st ps' hip0 hwf0
    hlim hp hsize
  obtain ⟨sc2, hc2, hcode2, _, _, _, hfl2⟩ := flow_compiler_emits_compileS toks _ ps' st
    { dict := s.m.dict, heapLen := s.m.heap.length } hp ⟨rfl, rfl, rfl, rfl⟩ rfl rfl rfl rfl
  have hsc : sc2 = sc := by
    have : Compile.CRes.ok sc2 = Compile.CRes.ok sc := hc2.symm.trans hc
    cases this; rfl
  subst hsc
  have hbk : ∀ fuel, (s.contextOpen .eval).build1 fuel toks =
      .ok { ((s.contextOpen .eval).fromC sc2) with lastTok := toks.length } :=
    fun fuel => build1_fresh fuel .eval (by decide) toks s sc2 hcode hdmap hflows hhl hc hfl2
  have hcode1 : (forgetBuildLog s.m ((s.contextOpen .eval).fromC sc2).m).code = codeOf st := by
    simpa [Sess.fromC, forgetBuildLog] using hcode2
  refine ⟨forgetBuildLog s.m ((s.contextOpen .eval).fromC sc2).m, rfl, hcode1, ?_⟩
  have hm1 : forgetBuildLog s.m ((s.contextOpen .eval).fromC sc2).m = { forgetBuildLog s.m (s.contextOpen .eval).m with code := sc2.code, dict := sc2.dict, heap := (forgetBuildLog s.m (s.contextOpen .eval).m).heap ++ List.replicate (sc2.heapLen - (forgetBuildLog s.m (s.contextOpen .eval).m).heap.length) Cell.nil } := rfl
  simp only at hrest
  rw [← hm1] at hrest
  have hl1 : (forgetBuildLog s.m ((s.contextOpen .eval).fromC sc2).m).insnLimit = none := hlim
  -- what `build_from_source` does once the tokens are read
  have hbs : ∀ fuel, s.buildSource fuel .eval toks =
      match ({ ((s.contextOpen .eval).fromC sc2) with m := forgetBuildLog s.m ((s.contextOpen .eval).fromC sc2).m, lastTok := toks.length, nested := s.nested } : Sess).runS fuel with
      | .ok s3 => .done { s3 with m := { s3.m with ctx := { s.m.ctx with ip := s3.m.ctx.ip } } }
      | .err e s3 => .failed e s3
      | .panic p s3 => .panic p s3
      | .unsupported u => .unsupported u
      | .timeout => .timeout := by
    intro fuel
    unfold Sess.buildSource
    simp only [hbk fuel]
    have hcu : ((s.contextOpen .eval).fromC sc2).constUndo = s.constUndo := rfl
    simp only [hcu, Nat.sub_self, List.drop_zero]
    have hn : ((s.contextOpen .eval).fromC sc2).nested = s.m.ctx :: s.nested := rfl
    have hmd : (forgetBuildLog s.m ((s.contextOpen .eval).fromC sc2).m).ctx.mode = .eval := rfl
    simp only [Sess.contextClose, hn, hmd, hmode, if_true]
    cases Sess.runS fuel _ <;> rfl
  have hwf1 : WF (forgetBuildLog s.m ((s.contextOpen .eval).fromC sc2).m) := ⟨hwf0.ds, hwf0.rs, hwf0.ls, hwf0.ss⟩
  have hcl0 : (forgetBuildLog s.m ((s.contextOpen .eval).fromC sc2).m).code.length = (codeOf st).length := by
    rw [hcode1]
  have hfl0 : ((s.contextOpen .eval).fromC sc2).flows = s.flows := by
    simp [Sess.fromC, Sess.hidden, Sess.visLen, Sess.contextOpen, hflows, hfl2]
  have hdm0 : ((s.contextOpen .eval).fromC sc2).dmap = dmapOf st := by simpa [Sess.fromC] using hd
  split
  · -- the evaluator finishes
    rename_i m' heq
    rw [heq] at hrest
    obtain ⟨n, mv, h1, h2, h3⟩ := hrest
    refine ⟨n, fun k => ⟨mv, h3, ?_⟩⟩
    have hcl := (stepN_sealed nativeProg n _ mv hwf1 h1).2
    have hrun := C15.run_eq_steps nativeProg n k _ mv h1 (stepN_running nativeProg n _ mv hl1 h1)
      (by simp [isRunning, h2, hcl, hcl0])
    rw [hbs (n + k)]
    simp only [Sess.runS, hrun]
    simp only [hfl0, hdm0]
    rfl
  · -- the evaluator fails
    rename_i e tok m' heq
    rw [heq] at hrest
    obtain ⟨n, mv, mv', h1, h2, h3, h4⟩ := hrest
    intro hgap
    have hrv : mv.isRunning = true :=
      step_ok_running nativeProg mv mv' (.err e) h2 (fun p hp => by cases hp) (stepN_nolimit nativeProg n _ mv hl1 h1)
    refine ⟨n + 1, fun k => ⟨mv', h3, by rw [stepN_fail_ip nativeProg h1 h2 nofun hwf1]; exact h4, ?_⟩⟩
    have hrun' : Mach.run nativeProg (n + 1 + k) (forgetBuildLog s.m ((s.contextOpen .eval).fromC sc2).m) = some (.err e, mv') :=
      C15.run_eq_steps_err nativeProg n k _ mv (.err e, mv') h1
        (fun j mj hj hmj => by
          rcases Nat.lt_or_eq_of_le hj with hlt | heq'
          · exact stepN_running nativeProg n _ mv hl1 h1 j mj hlt hmj
          · subst heq'; rw [h1] at hmj; cases hmj; exact hrv)
        h2 (by intro h; cases h)
    rw [hbs (n + 1 + k)]
    simp only [Sess.runS, hrun', hgap, Bool.false_eq_true, if_false]
    simp only [hfl0, hdm0]
    rfl
  all_goals trivial

/-- the hypotheses about the session are satisfiable: the empty session -/
example : ({} : Session.Sess).m.code = [] ∧ ({} : Session.Sess).dmap = [] ∧ ({} : Session.Sess).flows = [] ∧
    ({} : Session.Sess).m.ctx.mode = .eval ∧ WF ({} : Session.Sess).m ∧ ({} : Session.Sess).m.insnLimit = none ∧
    ({} : Session.Sess).m.heapLimit = none :=
  ⟨rfl, rfl, rfl, rfl, ⟨Nat.le_refl _, Nat.le_refl _, Nat.le_refl _, Nat.le_refl _⟩, rfl, rfl⟩

end Xeh.C01
