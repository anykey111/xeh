/- Shared by the four encodings: `vals`, what the round trip needs from an alphabet and its decode table, and induction
   over the chunks of the input. -/
import XehModel.Proofs.EncDigits

namespace Xeh.Enc

theorem vals_eq_some_iff (f : Nat → Option Nat) (l v : List Nat) :
    vals f l = some v ↔ l.map f = v.map some := by
  induction l generalizing v with
  | nil => cases v <;> simp [vals]
  | cons c cs ih =>
    cases hc : f c <;> cases hcs : vals f cs <;> cases v <;> simp [vals, hc, hcs, ← ih]

theorem vals_append (f : Nat → Option Nat) (l1 l2 v1 v2 : List Nat)
    (h1 : vals f l1 = some v1) (h2 : vals f l2 = some v2) : vals f (l1 ++ l2) = some (v1 ++ v2) := by
  rw [vals_eq_some_iff] at h1 h2 ⊢
  rw [List.map_append, List.map_append, h1, h2]

theorem vals_map (f : Nat → Option Nat) (g : Nat → Nat) (ds : List Nat)
    (h : ∀ d ∈ ds, f (g d) = some d) : vals f (ds.map g) = some ds := by
  rw [vals_eq_some_iff, List.map_map]
  exact List.map_congr_left h

theorem vals_some (f : Nat → Option Nat) (l v : List Nat) (h : vals f l = some v) :
    ∀ c ∈ l, (f c).isSome = true := by
  intro c hc
  have := List.mem_map_of_mem (f := f) hc
  rw [(vals_eq_some_iff f l v).1 h, List.mem_map] at this
  obtain ⟨d, -, hd⟩ := this
  simp [← hd]

structure AlphaOk (alpha : List Nat) (f : Nat → Option Nat) (B : Nat) : Prop where
  inv : alpha.map f = (List.range B).map some
  ascii : ∀ c ∈ alpha, c < 128

namespace AlphaOk
variable {alpha : List Nat} {f : Nat → Option Nat} {B : Nat} (A : AlphaOk alpha f B)
include A

theorem length : alpha.length = B := by
  simpa using congrArg List.length A.inv

theorem getElem?_alphaAt {d : Nat} (hd : d < B) : alpha[d]? = some (alphaAt alpha d) := by
  have : d < alpha.length := by rw [A.length]; exact hd
  simp [alphaAt, List.getD_eq_getElem?_getD, List.getElem?_eq_getElem this]

theorem mem {d : Nat} (hd : d < B) : alphaAt alpha d ∈ alpha :=
  List.mem_of_getElem? (A.getElem?_alphaAt hd)

theorem val_getElem? {d c : Nat} (h : alpha[d]? = some c) : f c = some d := by
  have := congrArg (·[d]?) A.inv
  simp only [List.getElem?_map, h, Option.map_some] at this
  obtain ⟨hd, -⟩ := List.getElem?_eq_some_iff.1 h
  rw [A.length] at hd
  simpa [List.getElem?_range hd] using this

theorem val {d : Nat} (hd : d < B) : f (alphaAt alpha d) = some d :=
  A.val_getElem? (A.getElem?_alphaAt hd)

theorem valid {c : Nat} (hc : c ∈ alpha) : (f c).isSome = true := by
  obtain ⟨d, hd⟩ := List.getElem?_of_mem hc
  simp [A.val_getElem? hd]

theorem valid_iff {c : Nat} (hinv : ∀ d, f c = some d → alpha[d]? = some c) :
    (f c).isSome = true ↔ c ∈ alpha :=
  ⟨fun h => by
    obtain ⟨d, hd⟩ := Option.isSome_iff_exists.1 h
    exact List.mem_of_getElem? (hinv d hd), A.valid⟩

theorem val_of_eq {d c : Nat} (hd : d < B) (h : alphaAt alpha d = c) : f c = some d :=
  h ▸ A.val hd

theorem vals_toDigits (hB : 0 < B) (k n : Nat) :
    vals f ((toDigits B k n).map (alphaAt alpha)) = some (toDigits B k n) :=
  vals_map _ _ _ fun d hd => A.val (toDigits_lt B k n hB d hd)

theorem toDigits_ascii (hB : 0 < B) (k n : Nat) : ∀ x ∈ (toDigits B k n).map (alphaAt alpha), x < 128 := by
  intro x hx
  obtain ⟨d, hd, rfl⟩ := List.mem_map.1 hx
  exact A.ascii _ (A.mem (toDigits_lt B k n hB d hd))

end AlphaOk

theorem all_of_takeWhile_length {α : Type} (p : α → Bool) (l : List α) (h : l.length ≤ (l.takeWhile p).length) :
    ∀ x ∈ l, p x = true := by
  have hpre := List.takeWhile_prefix p (l := l)
  rw [← hpre.eq_of_length (Nat.le_antisymm hpre.length_le h)]
  exact List.all_eq_true.mp List.all_takeWhile

theorem takeWhile_head {α : Type} (p : α → Bool) (l : List α) (h : ∀ y, l.head? = some y → p y = false) :
    l.takeWhile p = [] := by
  cases l with
  | nil => rfl
  | cons a t => simp [h a rfl]

theorem chunk_induction {α : Type} (j : Nat) (hj : 0 < j) {P : List α → Prop} (nil : P [])
    (tail : ∀ t, 0 < t.length → t.length < j → P t)
    (step : ∀ c rest, c.length = j → P rest → P (c ++ rest)) (l : List α) : P l := by
  induction h : l.length using Nat.strongRecOn generalizing l with
  | _ n ih =>
    by_cases hl : l.length < j
    · match l with
      | [] => exact nil
      | a :: t => exact tail _ (by simp) hl
    · rw [← List.take_append_drop j l]
      exact step _ _ (by simp; omega) (ih _ (by simp; omega) _ rfl)

end Xeh.Enc
