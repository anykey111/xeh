/- What the closing words do when breaks (and, for `endcase`, `endof`s) are pending: the holes of the symbolic code `H` the
   state holds lie on the flow stack as `pend pc H`, and popping them fills them in. -/
import XehModel.Proofs.FlowHCode

namespace Xeh.Structured
open Xeh Xeh.Mach Xeh.Compile Xeh.Compile.CState

theorem takeFirstCond_skip : ∀ (P fl : List Flow), (∀ f ∈ P, isBrkF f = true) →
    takeFirstCond (P ++ fl) = (takeFirstCond fl).map fun gr => (gr.1, P ++ gr.2)
  | [], fl, _ => by show takeFirstCond fl = _; cases takeFirstCond fl <;> rfl
  | .breakF o :: P, fl, h => by
    rw [List.cons_append, takeFirstCond, takeFirstCond_skip P fl fun g hg => h g (.tail _ hg)]
    cases takeFirstCond fl <;> rfl
  | .ifF _ :: _, _, h | .elseF _ :: _, _, h | .beginF _ :: _, _, h | .whileF _ :: _, _, h | .caseF :: _, _, h
  | .caseOfF _ :: _, _, h | .caseEndOfF _ :: _, _, h | .vecF :: _, _, h | .mapF :: _, _, h | .tagsF :: _, _, h
  | .funF _ :: _, _, h | .doF _ _ :: _, _, h => nomatch h _ (.head _)

theorem fromTo_fwd' {a b n : Nat} (h : b = a + n) : fromTo a b = (n : Int) := h ▸ fromTo_fwd a n

/-- `repeat` fills the `break`s of `H` in: the loop ends one opcode behind `H ++ post` -/
theorem repeat_pops (fa : Nat → HOp) (post : List Op) (s : CState) (H : HCode) : ∀ (pre : List Op) (n : Nat) (rest : List Flow),
    noArm H = true → s.code = pre ++ (erase H ++ post) → s.flows = pend pre.length H ++ rest →
    repeatLoop ((pend pre.length H).length + n) s =
      repeatLoop n { s with flows := rest,
                            code := pre ++ (erase (subst (fun d => .op (brkD (.jump (post.length + 1)) d)) fa H) ++ post) } := by
  induction H with
  | nil =>
    intro pre n rest _ hc hf
    cases (hf : s.flows = rest)
    show repeatLoop (0 + n) s = repeatLoop n { s with flows := s.flows, code := pre ++ (erase [] ++ post) }
    rw [Nat.zero_add, ← hc]
  | cons x r ih =>
    intro pre n rest ha hc hf
    obtain ⟨h, t⟩ := x
    have hl : ∀ x : Op, (pre ++ [x]).length = pre.length + 1 := fun _ => List.length_append
    have hc' := hc.trans (List.append_cons pre h.erase (erase r ++ post))
    cases h with
    | op o =>
      have := ih (pre ++ [o]) n rest ha hc' (hl o ▸ hf)
      rw [hl, List.append_assoc] at this
      exact this
    | brk =>
      have := ih (pre ++ [.jump 0]) (n + 1) (.breakF pre.length :: rest) ha hc' (by rw [hl, hf]; exact List.append_assoc ..)
      rw [hl, List.append_assoc] at this
      rw [show (pend pre.length ((HOp.brk, t) :: r)).length + n = (pend (pre.length + 1) r).length + (n + 1) by
        rw [pend, List.length_append, List.length_singleton]; omega, this]
      simp only [repeatLoop, CState.popFlow, CState.backpatchJump, List.singleton_append, getElem?_mid, set_mid, CState.origin,
        List.length_append, List.length_cons, length_erase, length_subst]
      rw [fromTo_fwd' (n := post.length + 1 + (r.length + 1)) (by omega)]
      rfl
    | arm => cases ha

/-- `loop` turns the `break`s of `H` into `Break` opcodes: `so`, where the loop ends, lies `k` opcodes behind `H` -/
theorem loop_pops (fa : Nat → HOp) (post : List Op) (lo so k : Nat) (s : CState) (H : HCode) : ∀ (pre : List Op) (n : Nat) (rest : List Flow),
    noArm H = true → s.code = pre ++ (erase H ++ post) → s.flows = pend pre.length H ++ rest → so = pre.length + H.length + k →
    loopLoop ((pend pre.length H).length + n) s lo so =
      loopLoop n { s with flows := rest, code := pre ++ (erase (subst (fun d => .op (brkD (.loop k) d)) fa H) ++ post) } lo so := by
  induction H with
  | nil =>
    intro pre n rest _ hc hf _
    cases (hf : s.flows = rest)
    show loopLoop (0 + n) s lo so = loopLoop n { s with flows := s.flows, code := pre ++ (erase [] ++ post) } lo so
    rw [Nat.zero_add, ← hc]
  | cons x r ih =>
    intro pre n rest ha hc hf hk
    obtain ⟨h, t⟩ := x
    have hl : ∀ x : Op, (pre ++ [x]).length = pre.length + 1 := fun _ => List.length_append
    have hc' := hc.trans (List.append_cons pre h.erase (erase r ++ post))
    have hk' : ∀ x : Op, so = (pre ++ [x]).length + r.length + k := fun _ => by rw [hk, hl, List.length_cons]; omega
    cases h with
    | op o =>
      have := ih (pre ++ [o]) n rest ha hc' (hl o ▸ hf) (hk' _)
      rw [hl, List.append_assoc] at this
      exact this
    | brk =>
      have := ih (pre ++ [.jump 0]) (n + 1) (.breakF pre.length :: rest) ha hc' (by rw [hl, hf]; exact List.append_assoc ..) (hk' _)
      rw [hl, List.append_assoc] at this
      rw [show (pend pre.length ((HOp.brk, t) :: r)).length + n = (pend (pre.length + 1) r).length + (n + 1) by
        rw [pend, List.length_append, List.length_singleton]; omega, this]
      simp only [loopLoop, CState.popFlow, CState.backpatch, List.singleton_append, set_mid]
      rw [fromTo_fwd' (n := k + (r.length + 1)) (by rw [hk, List.length_cons]; omega)]
      rfl
    | arm => cases ha

/-- `endcase` patches the `endof`s of `H` (`E`, the address of `endcase`, lies `c` opcodes behind `H`) and leaves its `break`s,
    which cost it no fuel -/
theorem endcase_pops (post : List Op) (E c : Nat) (s : CState) (H : HCode) : ∀ (pre : List Op) (n : Nat) (rest : List Flow),
    s.code = pre ++ (erase H ++ post) → s.flows = pend pre.length H ++ rest → E = pre.length + H.length + c →
    ∃ m, n ≤ m ∧ endcaseLoop ((pend pre.length H).length + n) s E =
      endcaseLoop m { s with flows := (pend pre.length H).filter isBrkF ++ rest,
                             code := pre ++ (erase (subst (fun _ => .brk) (armD c) H) ++ post) } E := by
  induction H with
  | nil =>
    intro pre n rest hc hf _
    cases (hf : s.flows = rest)
    refine ⟨n, Nat.le_refl _, ?_⟩
    show endcaseLoop (0 + n) s E = endcaseLoop n { s with flows := s.flows, code := pre ++ (erase [] ++ post) } E
    rw [Nat.zero_add, ← hc]
  | cons x r ih =>
    intro pre n rest hc hf hk
    obtain ⟨h, t⟩ := x
    have hl : ∀ x : Op, (pre ++ [x]).length = pre.length + 1 := fun _ => List.length_append
    have hc' := hc.trans (List.append_cons pre h.erase (erase r ++ post))
    have hk' : ∀ x : Op, E = (pre ++ [x]).length + r.length + c := fun _ => by rw [hk, hl, List.length_cons]; omega
    cases h with
    | op o =>
      have := ih (pre ++ [o]) n rest hc' (hl o ▸ hf) (hk' _)
      rw [hl, List.append_assoc] at this
      exact this
    | brk =>
      obtain ⟨m, hm, e⟩ := ih (pre ++ [.jump 0]) (n + 1) (.breakF pre.length :: rest) hc' (by rw [hl, hf]; exact List.append_assoc ..) (hk' _)
      rw [hl, List.append_assoc] at e
      refine ⟨m, by omega, ?_⟩
      rw [show (pend pre.length ((HOp.brk, t) :: r)).length + n = (pend (pre.length + 1) r).length + (n + 1) by
        rw [pend, List.length_append, List.length_singleton]; omega, e]
      simp only [pend, List.filter_append, List.append_assoc]
      rfl
    | arm =>
      obtain ⟨m, hm, e⟩ := ih (pre ++ [.jump 0]) (n + 1) (.caseEndOfF pre.length :: rest) hc' (by rw [hl, hf]; exact List.append_assoc ..) (hk' _)
      rw [hl, List.append_assoc] at e
      obtain ⟨m, rfl⟩ : ∃ m', m = m' + 1 := ⟨m - 1, by omega⟩
      refine ⟨m, by omega, ?_⟩
      rw [show (pend pre.length ((HOp.arm, t) :: r)).length + n = (pend (pre.length + 1) r).length + (n + 1) by
        rw [pend, List.length_append, List.length_singleton]; omega, e]
      simp only [endcaseLoop, takeFirstCond_skip _ _ fun f hf => (List.mem_filter.mp hf).2, takeFirstCond, Option.map_some,
        CState.backpatchJump, List.singleton_append, getElem?_mid, set_mid, pend, List.filter_append]
      rw [fromTo_fwd' (n := c + (r.length + 1)) (by rw [hk, List.length_cons]; omega)]
      simp only [List.filter_cons, isBrkF, Bool.false_eq_true, ↓reduceIte, List.filter_nil, List.append_nil]
      rfl

/-! ### the closing words, with breaks pending above the entry they close -/

theorem close_then_g (s : CState) (base body : List Op) (P fl : List Flow) (hP : ∀ f ∈ P, isBrkF f = true)
    (hc : s.code = base ++ Op.jumpIfNot 0 :: body) (hf : s.flows = P ++ .ifF base.length :: fl) :
    immediate s "then" = .ok { s with flows := P ++ fl, code := base ++ Op.jumpIfNot ((body.length + 1 : Nat) : Int) :: body } := by
  have ho : s.origin = base.length + (body.length + 1) := by simp [CState.origin, hc]
  conv => lhs; whnf
  simp only [hf, takeFirstCond_skip _ _ hP, takeFirstCond, Option.map_some]
  unfold backpatchJump
  simp only [hc, getElem?_mid, set_mid, ho, fromTo_fwd]

theorem close_else_g (s : CState) (base body : List Op) (P fl : List Flow) (hP : ∀ f ∈ P, isBrkF f = true)
    (hc : s.code = base ++ Op.jumpIfNot 0 :: body) (hf : s.flows = P ++ .ifF base.length :: fl) :
    immediate s "else" = .ok { s with flows := (Flow.elseF (base.length + 1 + body.length) :: (P ++ fl)), code := base ++ Op.jumpIfNot ((body.length + 2 : Nat) : Int) :: (body ++ [Op.jump 0]), dmap := s.dmap ++ [s.lastTok] } := by
  conv => lhs; whnf
  simp only [hf, takeFirstCond_skip _ _ hP, takeFirstCond, Option.map_some]
  unfold backpatchJump
  have h1 : (({ s with flows := P ++ fl } : CState).pushFlow (.elseF ({ s with flows := P ++ fl } : CState).origin)).emit (.jump 0) =
      { s with flows := (Flow.elseF (base.length + 1 + body.length) :: (P ++ fl)), code := base ++ Op.jumpIfNot 0 :: (body ++ [Op.jump 0]), dmap := s.dmap ++ [s.lastTok] } := by
    simp [CState.pushFlow, CState.emit, CState.origin, hc] <;> omega
  simp only [h1]
  simp only [getElem?_mid, set_mid]
  have : ({ s with flows := (Flow.elseF (base.length + 1 + body.length) :: (P ++ fl)), code := base ++ Op.jumpIfNot 0 :: (body ++ [Op.jump 0]), dmap := s.dmap ++ [s.lastTok] } : CState).origin = base.length + (body.length + 2) := by
    simp [CState.origin] <;> omega
  rw [this, fromTo_fwd]

theorem close_then_else_g (s : CState) (base A B : List Op) (k : Int) (P fl : List Flow) (hP : ∀ f ∈ P, isBrkF f = true)
    (hc : s.code = base ++ Op.jumpIfNot k :: (A ++ Op.jump 0 :: B)) (hf : s.flows = P ++ .elseF (base.length + 1 + A.length) :: fl) :
    immediate s "then" = .ok { s with flows := P ++ fl, code := base ++ Op.jumpIfNot k :: (A ++ Op.jump ((B.length + 1 : Nat) : Int) :: B) } := by
  have ho : s.origin = (base.length + 1 + A.length) + (B.length + 1) := by simp [CState.origin, hc] <;> omega
  have hc' : s.code = (base ++ Op.jumpIfNot k :: A) ++ Op.jump 0 :: B := by rw [hc]; simp
  have hl : (base ++ Op.jumpIfNot k :: A).length = base.length + 1 + A.length := by simp <;> omega
  conv => lhs; whnf
  simp only [hf, takeFirstCond_skip _ _ hP, takeFirstCond, Option.map_some]
  unfold backpatchJump
  simp only [hc', ← hl, getElem?_mid, set_mid]
  rw [hl, ho, fromTo_fwd]
  simp

theorem close_endof_g (s : CState) (base body : List Op) (P fl : List Flow) (hP : ∀ f ∈ P, isBrkF f = true)
    (hc : s.code = base ++ Op.caseOf 0 :: body) (hf : s.flows = P ++ .caseOfF base.length :: fl) :
    immediate s "endof" = .ok { s with flows := (Flow.caseEndOfF (base.length + 1 + body.length) :: (P ++ fl)), code := base ++ Op.caseOf ((body.length + 2 : Nat) : Int) :: (body ++ [Op.jump 0]), dmap := s.dmap ++ [s.lastTok] } := by
  conv => lhs; whnf
  simp only [hf, takeFirstCond_skip _ _ hP, takeFirstCond, Option.map_some]
  unfold backpatchJump
  have h1 : ({ s with flows := P ++ fl } : CState).emit (.jump 0) =
      { s with flows := P ++ fl, code := base ++ Op.caseOf 0 :: (body ++ [Op.jump 0]), dmap := s.dmap ++ [s.lastTok] } := by
    simp [CState.emit, hc]
  simp only [h1]
  simp only [getElem?_mid, set_mid]
  have : ({ s with flows := P ++ fl, code := base ++ Op.caseOf 0 :: (body ++ [Op.jump 0]), dmap := s.dmap ++ [s.lastTok] } : CState).origin = base.length + (body.length + 2) := by
    simp [CState.origin] <;> omega
  rw [this, fromTo_fwd]
  simp [CState.pushFlow, CState.origin, hc] <;> omega

theorem repeat_skip (s : CState) (pre : List Op) (H : HCode) (rest : List Flow) (ha : noArm H = true)
    (hc : s.code = pre ++ erase H) (hf : s.flows = pend pre.length H ++ rest) :
    immediate s "repeat" = immediate { s with flows := rest, code := pre ++ brkFill (.jump 1) H } "repeat" := by
  show repeatLoop (s.flows.length + 1) s = repeatLoop (rest.length + 1) _
  rw [hf, List.length_append, Nat.add_assoc, repeat_pops (armD 0) [] s H pre _ rest ha (by simpa using hc) hf]
  simp

theorem close_repeat_g (s : CState) (base : List Op) (H : HCode) (fl : List Flow) (ha : noArm H = true)
    (hc : s.code = base ++ erase H) (hf : s.flows = pend base.length H ++ .beginF base.length :: fl) :
    immediate s "repeat" = .ok { s with flows := fl, code := base ++ brkFill (.jump 1) H ++ [Op.jump (-(H.length : Int))], dmap := s.dmap ++ [s.lastTok] } := by
  rw [repeat_skip s base H _ ha hc hf, close_repeat _ base (brkFill (.jump 1) H) fl rfl rfl]
  simp

theorem close_repeat_while_g (s : CState) (base C : List Op) (H : HCode) (fl : List Flow) (ha : noArm H = true)
    (hc : s.code = base ++ (C ++ Op.jumpIfNot 0 :: erase H))
    (hf : s.flows = pend (base.length + C.length + 1) H ++ .whileF (base.length + C.length) :: .beginF base.length :: fl) :
    immediate s "repeat" = .ok { s with flows := fl, code := base ++ (C ++ Op.jumpIfNot ((H.length + 2 : Nat) : Int) :: (brkFill (.jump 1) H ++ [Op.jump (-((C.length + 1 + H.length : Nat) : Int))])), dmap := s.dmap ++ [s.lastTok] } := by
  have hl : (base ++ (C ++ [Op.jumpIfNot 0])).length = base.length + C.length + 1 := by simp; omega
  rw [repeat_skip s (base ++ (C ++ [Op.jumpIfNot 0])) H _ ha (by simp [hc]) (hl ▸ hf),
    close_repeat_while _ base C (brkFill (.jump 1) H) fl (by simp) rfl]
  simp

theorem close_loop_g (s : CState) (base : List Op) (H : HCode) (fl : List Flow) (ha : noArm H = true)
    (hc : s.code = base ++ Op.doOp 0 :: erase H) (hf : s.flows = pend (base.length + 1) H ++ .doF base.length (base.length + 1) :: fl) :
    immediate s "loop" = .ok { s with flows := fl, code := base ++ Op.doOp ((H.length + 2 : Nat) : Int) :: (brkFill (.loop 1) H ++ [Op.loopOp (-(H.length : Int))]), dmap := s.dmap ++ [s.lastTok] } := by
  have hl : s.code.length = base.length + 1 + H.length := by rw [hc]; simp; omega
  have hl1 : (base ++ [Op.doOp 0]).length = base.length + 1 := by simp
  have e1 : immediate s "loop" = loopLoop ((pend (base.length + 1) H).length + (fl.length + 2)) (s.emit (Op.loopOp 0)) s.code.length (s.code.length + 1) := by
    show loopLoop ((s.emit (Op.loopOp 0)).flows.length + 1) _ _ _ = _
    simp [CState.origin, CState.emit, hf, Nat.add_assoc]
  have e2 := loop_pops (armD 0) [Op.loopOp 0] s.code.length (s.code.length + 1) 1 (s.emit (Op.loopOp 0)) H (base ++ [Op.doOp 0])
    (fl.length + 2) _ ha (by simp [CState.emit, hc]) (by show s.flows = _; rw [hl1]; exact hf) (by rw [hl, hl1])
  rw [hl1] at e2
  rw [e1, e2]
  unfold brkFill
  generalize hY : erase (subst (fun d => .op (brkD (.loop 1) d)) (armD 0) H) = Y
  have lY : Y.length = H.length := by rw [← hY]; simp
  rw [show fl.length + 2 = (fl.length + 1) + 1 by omega]
  simp only [loopLoop, CState.popFlow, CState.backpatch, CState.emit, hl]
  rw [fromTo_fwd' (a := base.length) (n := H.length + 2) (by omega), show base.length + 1 + H.length = (base.length + 1) + H.length by rfl, fromTo_back]
  have h1 : (base ++ [Op.doOp 0] ++ (Y ++ [Op.loopOp 0])).set base.length (Op.doOp ((H.length + 2 : Nat) : Int)) =
      base ++ Op.doOp ((H.length + 2 : Nat) : Int) :: (Y ++ [Op.loopOp 0]) := by
    rw [List.append_assoc]; exact set_mid base _ _ _
  have h2 : (base ++ Op.doOp ((H.length + 2 : Nat) : Int) :: (Y ++ [Op.loopOp 0])).set (base.length + 1 + H.length) (Op.loopOp (-(H.length : Int))) =
      base ++ Op.doOp ((H.length + 2 : Nat) : Int) :: (Y ++ [Op.loopOp (-(H.length : Int))]) := by
    have e := set_mid (base ++ Op.doOp ((H.length + 2 : Nat) : Int) :: Y) (Op.loopOp 0) (Op.loopOp (-(H.length : Int))) []
    rw [List.length_append, List.length_cons, lY, List.append_assoc, List.append_assoc] at e
    rw [show base.length + 1 + H.length = base.length + (H.length + 1) by omega]; exact e
  rw [h1, h2]

theorem close_endcase_g (s : CState) (base : List Op) (H : HCode) (fl : List Flow)
    (hc : s.code = base ++ erase H) (hf : s.flows = pend base.length H ++ .caseF :: fl) :
    immediate s "endcase" = .ok { s with flows := (pend base.length H).filter isBrkF ++ fl,
                                         code := base ++ erase (subst (fun _ => .brk) (armD 0) H) } := by
  obtain ⟨m, hm, e⟩ := endcase_pops [] s.origin 0 s H base (fl.length + 2) _ (by simpa using hc) hf (by simp [CState.origin, hc])
  obtain ⟨m, rfl⟩ : ∃ m', m = m' + 1 := ⟨m - 1, by omega⟩
  show endcaseLoop (s.flows.length + 1) s s.origin = _
  rw [show s.flows.length + 1 = (pend base.length H).length + (fl.length + 2) by simp [hf]; omega, e]
  simp [endcaseLoop, takeFirstCond_skip _ _ fun f hf => (List.mem_filter.mp hf).2, takeFirstCond]

end Xeh.Structured
