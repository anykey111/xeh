/-
Outside meta blocks the session's token loop IS the flow-stack compiler: reading a token list that the compiler
accepts (so: without `#(`, `#)`, `const`, which the compiler on its own answers `unsupported`) leaves the session with
exactly the compiler's result written back (`tokens_is_compileToks`).  This carries C01's theorems about
`compileToks` to `build_from_source`, the entry point behind `eval` and `compile`.
-/
import XehModel.Model.Session
import XehModel.Proofs.CompileHeap
import XehModel.Proofs.SessionLoop

namespace Xeh.Session
open Xeh Xeh.Mach Xeh.Compile Xeh.Session.Sess

/-- the compiler state `c` can be written back into `s` and read out again -/
structure Sync (s : Sess) (c : CState) : Prop where
  fs : s.m.ctx.fsLen ≤ s.flows.length
  heapLen : s.m.heap.length ≤ c.heapLen
  heapLimit : c.heapLimit = s.m.heapLimit
  hidden : c.hiddenFlows = s.m.ctx.fsLen
  inMeta : c.inMeta = (s.m.ctx.mode == .metaEval)

theorem hidden_length {s : Sess} (h : s.m.ctx.fsLen ≤ s.flows.length) : s.hidden.length = s.m.ctx.fsLen := by
  simp only [Sess.hidden, Sess.visLen, List.length_drop]; omega

theorem sync_toC (s : Sess) (h : s.m.ctx.fsLen ≤ s.flows.length) : Sync s s.toC :=
  ⟨h, Nat.le_refl _, rfl, by simp only [Sess.toC, Sess.visLen]; omega, rfl⟩

theorem toC_fromC (s : Sess) (c : CState) (h : Sync s c) : (s.fromC c).toC = c := by
  obtain ⟨h1, h2, h3, h4, h5⟩ := h
  have hl := hidden_length h1
  cases c
  simp only at h2 h3 h4 h5
  simp only [Sess.toC, Sess.fromC, Sess.visible, Sess.visLen, CState.mk.injEq, List.length_append, List.length_replicate, true_and]
  refine ⟨?_, by omega, h3.symm, ?_, h5.symm⟩
  · rw [hl]; simp
  · rw [hl]; omega

theorem fromC_fromC (s : Sess) (c c' : CState) (h : Sync s c) (hle : c.heapLen ≤ c'.heapLen) :
    (s.fromC c).fromC c' = s.fromC c' := by
  obtain ⟨h1, h2, _, _, _⟩ := h
  have hl := hidden_length h1
  have hh : (s.fromC c).hidden = s.hidden := by
    have e1 : (s.fromC c).flows = c.flows ++ s.hidden := rfl
    have e2 : (s.fromC c).m.ctx.fsLen = s.m.ctx.fsLen := rfl
    unfold Sess.hidden Sess.visLen
    rw [e1, e2, List.length_append]
    have e3 : s.hidden = List.drop (s.flows.length - s.m.ctx.fsLen) s.flows := rfl
    rw [hl, show c.flows.length + s.m.ctx.fsLen - s.m.ctx.fsLen = c.flows.length by omega, List.drop_left, e3]
  have e4 : ∀ (x : Sess) (y : CState), x.fromC y = { x with m := { x.m with code := y.code, dict := y.dict, heap := x.m.heap ++ List.replicate (y.heapLen - x.m.heap.length) Cell.nil }, dmap := y.dmap, flows := y.flows ++ x.hidden, lastTok := y.lastTok } := fun _ _ => rfl
  rw [e4 (s.fromC c) c', hh, e4 s c', e4 s c]
  simp only [List.length_append, List.length_replicate, List.append_assoc, List.replicate_append_replicate]
  have : c.heapLen - s.m.heap.length + (c'.heapLen - (s.m.heap.length + (c.heapLen - s.m.heap.length))) = c'.heapLen - s.m.heap.length := by omega
  rw [this]

theorem sync_fromC {s : Sess} {c c' : CState} (h : Sync s c) (hl : HL c c') : Sync (s.fromC c) c' := by
  obtain ⟨h1, h2, h3, h4, h5⟩ := h
  obtain ⟨g1, g2, _, g4, g5⟩ := hl
  refine ⟨?_, ?_, g1.trans h3, g4.trans h4, g5.trans h5⟩
  · simp only [Sess.fromC, List.length_append, hidden_length h1]; omega
  · simp only [Sess.fromC, List.length_append, List.length_replicate]; omega

theorem ofC_ok (s : Sess) (c c1 : CState) (fuel : Nat) (hs : Sync s c) (hm : s.m.ctx.mode ≠ .metaEval) (hl : HL c c1) :
    andRun fuel ((s.fromC c).ofC (.ok c1)) = .ok (s.fromC c1) := by
  simp only [Sess.ofC, andRun]
  rw [fromC_fromC s c c1 hs hl.2.1]
  exact metaRun_noop _ fuel hm

def Accepted (rest : List Tok) (idx : Nat) (c c' : CState) (k : Kind) : Prop :=
  ∃ c1, cact { c with lastTok := k.tok idx } k = .ok c1 ∧
    compileToks (rest.drop (k.width - 1)) (idx + k.width) c1 = .ok c' ∧
    idx + k.width + (rest.drop (k.width - 1)).length = idx + (rest.length + 1)

theorem accepted_of {rest rest' : List Tok} {idx w : Nat} {c c' : CState} {k : Kind} {r : CRes CState}
    (hw : k.width = w) (hd : rest.drop (w - 1) = rest') (hl : rest'.length + w = rest.length + 1)
    (h : (match (generalizing := false) r with
      | .ok s' => compileToks rest' (idx + w) s'
      | .err e sp => .err e sp
      | .unsupported u => .unsupported u) = .ok c') (hr : cact { c with lastTok := k.tok idx } k = r) :
    Accepted rest idx c c' k := by
  unfold Accepted
  rw [hw, hd, hr]
  cases r with
  | ok c1 => exact ⟨c1, rfl, h, by omega⟩
  | err e sp => cases h
  | unsupported u => cases h

/-- through the same `classify` as the session's loop -/
theorem compileToks_cons {t : Tok} {rest : List Tok} {idx : Nat} {c c' : CState} (h : compileToks (t :: rest) idx c = .ok c') :
    ∀ k, classify c.flows c.dict t rest = k → Accepted rest idx c c' k := by
  cases t with
  | lit v => rintro _ rfl; exact accepted_of (r := .ok _) rfl rfl rfl h rfl
  | word x =>
    simp only [compileToks] at h
    simp only [classify]
    generalize ((CState.topFun c.flows).bind fun ff => CState.rposition x ff.locals) = d at h ⊢
    generalize List.lookup x c.dict = e at h ⊢
    cases d with
    | some i => rintro _ rfl; exact accepted_of (r := .ok _) rfl rfl rfl h rfl
    | none =>
      dsimp only at h ⊢
      cases e with
      | none => rintro _ rfl; exact accepted_of rfl rfl rfl h rfl
      | some en =>
        cases en with
        | const v => rintro _ rfl; exact accepted_of rfl rfl rfl h rfl
        | var a => rintro _ rfl; exact accepted_of rfl rfl rfl h rfl
        | interp im a => rintro _ rfl; exact accepted_of rfl rfl rfl h rfl
        | native im n =>
          cases im with
          | false => rintro _ rfl; exact accepted_of rfl rfl rfl h rfl
          | true =>
            dsimp only at h ⊢
            -- `#(`, `#)`, `const` are not the compiler's: it does not accept them
            have unsup : ∀ m, takesName m = false → (∀ s, immediate s m = .unsupported m) → (n == m) = false := by
              intro m hm him
              cases hnm : n == m with
              | false => rfl
              | true =>
                rw [beq_iff_eq.mp hnm, if_neg (by simp [hm]), him] at h
                cases h
            have h1 := unsup "#(" (by decide) fun _ => rfl
            have h2 := unsup "#)" (by decide) fun _ => rfl
            have h3 := unsup "const" (by decide) fun _ => rfl
            simp only [h1, h2, h3, Bool.false_eq_true, if_false, Bool.false_or]
            by_cases htn : takesName n = true
            · rw [if_pos htn] at h ⊢
              cases rest with
              | nil => dsimp only at h; split at h <;> cases h
              | cons r1 rest' =>
                cases r1 with
                | lit v => dsimp only at h; split at h <;> cases h
                | word name =>
                  dsimp only at h ⊢
                  by_cases h5 : (n == "late") = true
                  · rw [if_pos h5] at h ⊢
                    rintro _ rfl
                    exact accepted_of rfl rfl rfl h rfl
                  · rw [if_neg h5] at h ⊢
                    rintro _ rfl
                    exact accepted_of rfl rfl rfl h rfl
            · rw [if_neg htn] at h ⊢
              rintro _ rfl
              exact accepted_of rfl rfl rfl h rfl

theorem act_fromC {s : Sess} {c c1 : CState} (fuel : Nat) (hs : Sync s c) (k : Kind) (i : Nat)
    (h : cact { c with lastTok := i } k = .ok c1) :
    act fuel { (s.fromC c) with lastTok := i } k = .ok (s.fromC c1) ∧ HL c c1 := by
  have htc : ({ (s.fromC c) with lastTok := i } : Sess).toC = { c with lastTok := i } :=
    (rfl : _ = ({ (s.fromC c).toC with lastTok := i } : CState)).trans (by rw [toC_fromC s c hs])
  have viaC : ∀ r : CRes CState, HR { c with lastTok := i } r → r = .ok c1 →
      ({ (s.fromC c) with lastTok := i } : Sess).ofC r = .ok (s.fromC c1) ∧ HL c c1 := by
    rintro _ hr rfl
    have hl : HL c c1 := (hl_same rfl rfl rfl rfl : HL c { c with lastTok := i }).trans hr
    exact ⟨congrArg SRes.ok (fromC_fromC s c c1 hs hl.2.1), hl⟩
  cases k with
  | emit op =>
    cases h
    exact ⟨congrArg SRes.ok (by simp [Sess.fromC, Sess.emit, CState.emit, Sess.hidden, Sess.visLen]), hl_same rfl rfl rfl rfl⟩
  | late _ | named _ _ | imm _ | word _ => simp only [act]; rw [htc]; exact viaC _ (cact_hr _ _) h
  | _ => cases h

theorem tokens_is_compileToks (fuel depth : Nat) (s : Sess) (hm : s.m.ctx.mode ≠ .metaEval) (toks : List Tok) :
    ∀ (idx : Nat) (c c' : CState), Sync s c → compileToks toks idx c = .ok c' →
      tokens fuel depth toks idx (s.fromC c) = tokens fuel depth [] (idx + toks.length) (s.fromC c') ∧ HL c c' := by
  induction toks using tokens_induction with
  | nil =>
    intro idx c c' _ hc
    simp only [compileToks] at hc
    split at hc
    · cases hc; exact ⟨rfl, HL.refl _⟩
    · cases hc
  | cons t rest ih =>
    intro idx c c' hs hc
    have hv : (s.fromC c).visible = c.flows := congrArg CState.flows (toC_fromC s c hs)
    obtain ⟨c1, hact, hrest, hlen⟩ := compileToks_cons hc _ rfl
    obtain ⟨ha, hl1⟩ := act_fromC fuel hs _ _ hact
    have hs1 : Sync s c1 := ⟨hs.fs, Nat.le_trans hs.heapLen hl1.2.1, hl1.1.trans hs.heapLimit, hl1.2.2.2.1.trans hs.hidden,
      hl1.2.2.2.2.trans hs.inMeta⟩
    obtain ⟨e, hl2⟩ := ih _ _ c1 c' hs1 hrest
    rw [tokens_cons, hv, show (s.fromC c).m.dict = c.dict from rfl]
    simp only [round, thenTokens, ha, andRun]
    rw [metaRun_noop (s.fromC c1) fuel hm]
    exact ⟨by rw [List.length_cons, ← hlen]; exact e, hl1.trans hl2⟩

/-- the compiler overwrites the last-token marker before it reads it -/
theorem compileToks_tok (x : Tok) (rest : List Tok) (idx l : Nat) (c : CState) :
    compileToks (x :: rest) idx { c with lastTok := l } = compileToks (x :: rest) idx c := by
  cases x <;> simp only [compileToks]

theorem fromC_toC (s : Sess) (h : s.m.ctx.fsLen ≤ s.flows.length) : s.fromC s.toC = s := by
  obtain ⟨⟨mc, mh, md, mr, ml, msp, mctx, mmt, mil, msl, mhl, mlg, mo, mst, mdi⟩, d, f, n, cu, l⟩ := s
  simp [Sess.fromC, Sess.toC, Sess.visible, Sess.hidden, Sess.visLen]

theorem build1_fresh (fuel : Nat) (mode : Mode) (hmode : mode ≠ .metaEval) (toks : List Tok) (s : Sess) (c' : CState)
    (hcode : s.m.code = []) (hdmap : s.dmap = []) (hflows : s.flows = []) (hlim : s.m.heapLimit = none)
    (hc : compileToks toks 0 { dict := s.m.dict, heapLen := s.m.heap.length } = .ok c') (hfl : c'.flows = []) :
    (s.contextOpen mode).build1 fuel toks = .ok { ((s.contextOpen mode).fromC c') with lastTok := toks.length } := by
  have hm : (s.contextOpen mode).m.ctx.mode ≠ .metaEval := by simpa [Sess.contextOpen] using hmode
  have hfs : (s.contextOpen mode).m.ctx.fsLen ≤ (s.contextOpen mode).flows.length := by simp [Sess.contextOpen]
  have htc : (s.contextOpen mode).toC = { ({ dict := s.m.dict, heapLen := s.m.heap.length } : CState) with lastTok := s.lastTok } := by
    simp only [Sess.toC, Sess.contextOpen, Sess.visible, Sess.visLen, hcode, hdmap, hflows, hlim, CState.mk.injEq]
    cases mode <;> simp_all
  cases toks with
  | nil =>
    simp only [compileToks] at hc
    cases hc
    unfold Sess.build1
    rw [metaRun_noop _ fuel hm]
    simp only [tokens, Sess.hasPendingFlow, Sess.contextOpen, hflows, List.length_nil, Sess.fromC, Sess.hidden, Sess.visLen, hcode, hdmap]
    simp
  | cons x rest =>
    have hc2 : compileToks (x :: rest) 0 (s.contextOpen mode).toC = .ok c' := by rw [htc, compileToks_tok]; exact hc
    obtain ⟨e, _⟩ := tokens_is_compileToks fuel (s.contextOpen mode).nested.length (s.contextOpen mode) hm (x :: rest) 0 _ c'
      (sync_toC _ hfs) hc2
    rw [fromC_toC _ hfs] at e
    unfold Sess.build1
    rw [metaRun_noop _ fuel hm]
    simp only
    rw [e]
    simp only [tokens, Nat.zero_add]
    have h1 : ((((s.contextOpen mode).fromC c').nested.length != (s.contextOpen mode).nested.length)) = false := by
      simp [Sess.fromC]
    have h2 : ({ ((s.contextOpen mode).fromC c') with lastTok := (x :: rest).length } : Sess).hasPendingFlow = false := by
      simp [Sess.hasPendingFlow, Sess.fromC, Sess.hidden, Sess.visLen, Sess.contextOpen, hflows, hfl]
    simp only [h1, h2, Bool.false_eq_true, if_false]

end Xeh.Session
