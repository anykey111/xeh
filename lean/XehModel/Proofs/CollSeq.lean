/-
Vectors and strings. Specification side: Python-style index normalisation (`pyIndex`, `pyNorm`, `pySlice`), which
the implementation's `relative_index` / `slicing_index` meet for every integer. Implementation side: what the
accessors and the sequence words do on operands whose `value` is known.
-/
import XehModel.Proofs.ProgLemmas
import XehModel.Model.Collections

namespace Xeh

/-- `l[i]` -/
def pyIndex (len : Nat) (i : Int) : Option Nat :=
  if 0 ≤ i ∧ i < len then some i.toNat
  else if i < 0 ∧ -(len : Int) ≤ i then some (len + i).toNat
  else none

def pyNorm (len : Nat) (i : Int) : Nat :=
  if i < 0 then (max ((len : Int) + i) 0).toNat else (min i len).toNat

/-- `l[a:b]` -/
def pySlice (l : List α) (a b : Int) : List α :=
  (l.drop (pyNorm l.length a)).take (pyNorm l.length b - pyNorm l.length a)

theorem pyIndex_lt {len : Nat} {i : Int} {a : Nat} (h : pyIndex len i = some a) : a < len := by
  unfold pyIndex at h
  split at h
  · cases h; omega
  · split at h
    · cases h; omega
    · cases h

theorem pyNorm_le (len : Nat) (i : Int) : pyNorm len i ≤ len := by
  unfold pyNorm; split <;> omega

theorem pySlice_getElem? (l : List α) (a b : Int) (j : Nat) :
    (pySlice l a b)[j]? =
      if pyNorm l.length a + j < pyNorm l.length b then l[pyNorm l.length a + j]? else none := by
  unfold pySlice
  rw [List.getElem?_take]
  split
  · rename_i hj
    rw [List.getElem?_drop, if_pos (by omega)]
  · rename_i hj
    rw [if_neg (by omega)]

theorem pySlice_length (l : List α) (a b : Int) :
    (pySlice l a b).length = pyNorm l.length b - pyNorm l.length a := by
  unfold pySlice
  have := pyNorm_le l.length a; have := pyNorm_le l.length b
  rw [List.length_take, List.length_drop]; omega

theorem relativeIndex_eq_pyIndex (len : Nat) (i : Int) : relativeIndex len i = pyIndex len i := by
  unfold relativeIndex pyIndex
  split
  · rename_i h0
    rw [if_neg (c := 0 ≤ i ∧ i < (len : Int)) fun h => Int.not_lt.mpr h.1 h0]
    split
    · rw [if_neg (by omega)]
    · rw [if_pos (by omega)]; congr 1; omega
  · rename_i h0
    split
    · rw [if_pos (by omega)]
    · rw [if_neg (by omega), if_neg (c := i < 0 ∧ -(len : Int) ≤ i) fun h => h0 h.1]

theorem slicingIndex_eq_pyNorm (len : Nat) (i : Int) : slicingIndex i len = pyNorm len i := by
  unfold slicingIndex pyNorm
  split
  · by_cases h1 : (len : Int) + i ≤ 0
    · rw [Int.max_eq_right h1, Nat.min_eq_right (by omega)]; omega
    · rw [Int.max_eq_left (by omega), Nat.min_eq_left (by omega)]; omega
  · by_cases h1 : i ≤ len
    · rw [Int.min_eq_left h1, Nat.min_eq_left (by omega)]
    · rw [Int.min_eq_right (by omega), Nat.min_eq_right (by omega)]; rfl

theorem pyNorm_of_le {len : Nat} {i : Int} (h : i ≤ -(len : Int)) : pyNorm len i = 0 := by
  unfold pyNorm
  split
  · rw [Int.max_eq_right (by omega)]; rfl
  · rw [Int.min_eq_left (by omega)]; omega

theorem pyNorm_of_ge {len : Nat} {i : Int} (h : (len : Int) ≤ i) : pyNorm len i = len := by
  unfold pyNorm
  rw [if_neg (by omega), Int.min_eq_right h]; rfl

/-- the clamp to isize changes nothing because a vector is never longer than `isize::MAX`: outside `-len .. len`
    a slice bound lands where its nearer end does -/
theorem slicingIndex_clamp (len : Nat) (i : Int) (hlen : (len : Int) ≤ isizeMax) :
    slicingIndex (clampIsize i) len = pyNorm len i := by
  rw [slicingIndex_eq_pyNorm]
  unfold clampIsize isizeMin isizeMax at *
  by_cases h1 : i < -(2:Int)^63
  · rw [Int.max_eq_right (Int.le_of_lt h1), Int.min_eq_left (by decide), pyNorm_of_le (by omega), pyNorm_of_le (by omega)]
  · rw [Int.max_eq_left (by omega)]
    by_cases h2 : i ≤ 2^63 - 1
    · rw [Int.min_eq_left h2]
    · rw [Int.min_eq_right (by omega), pyNorm_of_ge hlen, pyNorm_of_ge (by omega)]

theorem sliceList_eq_pySlice (l : List α) (a b : Int) (hlen : (l.length : Int) ≤ isizeMax) :
    sliceList l (clampIsize a) (clampIsize b) = pySlice l a b := by
  unfold sliceList pySlice
  simp only [slicingIndex_clamp _ _ hlen]
  congr 1
  omega

namespace Cell
variable {c : Cell}

theorem toVec_of_value {v : CellList} (h : c.value = .vec v) : c.toVec = .ok v := by rw [toVec, h]
theorem toStr_of_value {x : List Char} (h : c.value = .str x) : c.toStr = .ok x := by rw [toStr, h]
theorem toXint_of_value {i : Int} (h : c.value = .int i) : c.toXint = .ok i := by rw [toXint, h]

theorem toIsize_of_value {i : Int} (h : c.value = .int i) :
    c.toIsize = if i < isizeMin ∨ i > isizeMax then .err .integerOverflow else .ok i := by rw [toIsize, h]

theorem toUsize_of_value {i : Int} (h : c.value = .int i) :
    c.toUsize = if i < 0 then .err (.typeErrorMsg c "positive integer")
      else if i > usizeMax then .err .integerOverflow else .ok i.toNat := by rw [toUsize, h]

end Cell

namespace Prog

theorem runStack_pushAll (l : List Cell) (k : Prog) (h : Nat) (s : List Cell) :
    runStack (pushAll l k) h s = runStack k h (l.reverse ++ s) := by
  induction l generalizing s with
  | nil => rfl
  | cons c cs ih => simp [pushAll, ih]

theorem runStack_popN (xs : List Cell) (k : Prog) (h : Nat) (s : List Cell) (hh : h ≤ s.length) :
    runStack (popN xs.length k) h (xs ++ s) = runStack k h s := by
  induction xs with
  | nil => rfl
  | cons c cs ih =>
    simp only [List.length_cons, popN, List.cons_append]
    rw [runStack_pop_cons _ _ _ _ (by simp; omega)]
    exact ih

end Prog

theorem intercalate_nil : ∀ ss : List (List α), ([] : List α).intercalate ss = ss.flatten
  | [] => rfl
  | [a] => rfl
  | a :: b :: t => by rw [List.intercalate_cons_cons, intercalate_nil (b :: t)]; simp

def strCells (ss : List (List Char)) : CellList := CellList.ofList (ss.map Cell.str)

theorem joinCells_cons_cons (sep : List Char) (x y : Cell) (t : CellList) (a b : List Char)
    (h1 : joinPiece sep x = some a) (h2 : joinCells sep (.cons y t) = some b) :
    joinCells sep (.cons x (.cons y t)) = some (a ++ sep ++ b) := by
  conv => lhs; unfold joinCells
  simp only [h1, h2]

theorem joinCells_strs (sep : List Char) : ∀ ss : List (List Char),
    joinCells sep (strCells ss) = some (sep.intercalate ss)
  | [] => by simp [strCells, CellList.ofList, joinCells, List.intercalate]
  | [a] => by simp [strCells, CellList.ofList, joinCells, joinPiece, List.intercalate]
  | a :: b :: t => by
    have ih := joinCells_strs sep (b :: t)
    simp only [strCells, List.map_cons, CellList.ofList] at ih ⊢
    rw [joinCells_cons_cons sep _ _ _ a _ (by simp [joinPiece]) ih]
    simp [List.intercalate, List.intersperse]

section words
open Prog Coll
variable {s : List Cell} {h : Nat} {v : CellList} {ic vc c : Cell}

theorem runStack_wordGet_vec (hv : vc.value = .vec v) (hh : h ≤ s.length) :
    wordGet.runStack h (ic :: vc :: s) = runStack (ofOutcome ic.toUsize fun idx =>
      match v.toList[idx]? with
      | some x => .push x .done
      | none => .fail (.outOfBounds idx 0 v.length)) h s := by
  rw [wordGet, runStack_pop2 hh, hv]; rfl

theorem runStack_wordSlice {ac bc : Cell} {a b : Int} (ha : ac.value = .int a) (hb : bc.value = .int b)
    (hh : h ≤ s.length) :
    wordSlice.runStack h (bc :: ac :: c :: s) =
      match c.value with
      | .vec v => .ok (.vec (CellList.ofList (sliceList v.toList (clampIsize a) (clampIsize b))) :: s)
      | .str cs => .ok (.str (sliceList cs (clampIsize a) (clampIsize b)) :: s)
      | _ => .err (.typeNotSupported c) := by
  rw [wordSlice, runStack_pop_cons _ _ _ _ (Nat.le_succ_of_le (Nat.le_succ_of_le hh)), Cell.toXint_of_value hb,
    ofOutcome, runStack_pop_cons _ _ _ _ (Nat.le_succ_of_le hh), Cell.toXint_of_value ha, ofOutcome,
    runStack_pop_cons _ _ _ _ hh]
  cases c.value <;> rfl

theorem runStack_wordCollect {nc : Cell} {n : Nat} (hn : nc.value = .int n) (hu : (n : Int) ≤ usizeMax)
    (hh : h ≤ s.length) :
    wordCollect.runStack h (nc :: s) =
      if n > s.length - h then .err .stackUnderflow
      else runStack (popN n (.push (.vec (CellList.ofList (s.reverse.drop (s.length - n)))) .done)) h s := by
  rw [wordCollect, runStack_pop_cons _ _ _ _ hh, Cell.toUsize_of_value hn, if_neg (by omega), if_neg (by omega),
    Int.toNat_natCast, ofOutcome, runStack_depth, runStack_ite]
  rfl

end words

end Xeh
