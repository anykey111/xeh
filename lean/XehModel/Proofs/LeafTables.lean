/-
Tie B, tables (DESIGN §4.2): what `tools/extract.py` regenerates from /repo/src/*.rs into Generated/Tables.lean against
expected tables written by hand, one module per table (Proofs/Tables/*.lean), by `rfl` between table literals and by kernel evaluation (`decide +kernel`): no axiom beyond Lean's standard ones.
This module only gathers them; Proofs/LeafBridge.lean imports it.
-/
import XehModel.Proofs.Tables.Words
import XehModel.Proofs.Tables.Arith
import XehModel.Proofs.Tables.Data
import XehModel.Proofs.Tables.Limits
import XehModel.Proofs.Tables.BuildRoutes
import XehModel.Proofs.Tables.LastError
import XehModel.Proofs.Tables.ReverseLog
import XehModel.Proofs.Tables.RangeOps
import XehModel.Proofs.Tables.Mutations
