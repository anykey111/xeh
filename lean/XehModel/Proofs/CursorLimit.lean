/-
C14 at the level of the parsing / construction words (Model/Cursor.lean): the stack limit configured with
`set_stack_limit` is a hard bound for them as well, over any history.
-/
import XehModel.Proofs.CursorLemmas


namespace Xeh.Cur
open Xeh

theorem lt_of_not_full {s : CurState} {L : Nat} (h : s.stackLimit = some L) (room : full s = false) :
    s.ds.length < L := by
  simpa [full, h] using room

/-- `max`: the stack may already be above the limit — a limit lowered below the current depth — and then it never
    grows at all -/
theorem limit_step (s : CurState) (op : POp) (L : Nat) (h : s.stackLimit = some L) (hop : ∀ l, op ≠ .limit l) :
    (step s op).1.stackLimit = some L ∧ (step s op).1.ds.length ≤ max L s.ds.length := by
  have e := step_effect s op
  generalize step s op = res at e
  refine ⟨?_, ?_⟩
  · cases e with
    | limit l => exact absurd rfl (hop l)
    | _ => exact h
  · have drop_le (k : Nat) : (s.ds.drop k).length ≤ max L s.ds.length := by
      rw [List.length_drop]; omega
    cases e with
    | stack k c room | read k c room =>
      exact Nat.le_trans (lt_of_not_full (s := s.popped k) h room) (Nat.le_max_left ..)
    | fail k | out k => exact drop_le k
    | seek | opened => exact drop_le 1
    | _ => exact Nat.le_max_right ..

theorem limit_history (ops : List POp) (s : CurState) (L : Nat) (h : s.stackLimit = some L)
    (hops : ∀ op ∈ ops, ∀ l, op ≠ .limit l) :
    (runAll s ops).stackLimit = some L ∧ (runAll s ops).ds.length ≤ max L s.ds.length :=
  runAll_ind (P := fun t => t.stackLimit = some L ∧ t.ds.length ≤ max L s.ds.length) ops s
    (fun p op hp ht => by
      have h1 := limit_step (runAll s p) op L ht.1 (hops op (mem_of_snoc_prefix hp))
      exact ⟨h1.1, by have := h1.2; have := ht.2; omega⟩)
    ⟨h, Nat.le_max_right ..⟩

end Xeh.Cur
