/-
Every opcode is attributed to the token that was being compiled when it was emitted
(`code_emit` records `last_token`; backpatching never rewrites the debug map).
-/
import XehModel.Proofs.CompileWalk

namespace Xeh.Compile
open CState

@[simp] theorem emit_lastTok (s : CState) (op : Op) : (s.emit op).lastTok = s.lastTok := rfl

def Added (T : Nat → Prop) (s s' : CState) : Prop := ∃ l, s'.dmap = s.dmap ++ l ∧ ∀ t ∈ l, T t

theorem added_keeps (T : Nat → Prop) (s0 : CState) : Keeps 0 T (Added T s0) where
  mark _ := Nat.zero_le _
  emit {s} _ ht h := by
    obtain ⟨l, e, hl⟩ := h
    refine ⟨l ++ [s.lastTok], by simp only [emit, e, List.append_assoc], fun t hm => ?_⟩
    rcases List.mem_append.mp hm with hm | hm
    · exact hl t hm
    · rw [List.mem_singleton.mp hm]; exact ht
  flows _ h := h
  patch _ _ h _ := h
  dict _ h := h
  alloc h _ := h
  tok _ h := h

theorem Added.refl (T : Nat → Prop) (s : CState) : Added T s s := ⟨[], (List.append_nil _).symm, fun _ h => nomatch h⟩

def DExt (s s' : CState) : Prop :=
  ∃ k, s'.dmap = s.dmap ++ List.replicate k s.lastTok ∧ s'.lastTok = s.lastTok

theorem Inv.dext {s s' : CState} (h : Inv 0 (fun t => t = s.lastTok) (Added (fun t => t = s.lastTok) s) s') :
    DExt s s' := by
  obtain ⟨l, e, hl⟩ := h.j
  exact ⟨l.length, e.trans (congrArg _ (List.eq_replicate_iff.mpr ⟨rfl, hl⟩)), h.t⟩

theorem immediate_dext (s s' : CState) (w : String) (e : immediate s w = .ok s') : DExt s s' :=
  ((immediate_keeps (added_keeps (fun t => t = s.lastTok) s) w ⟨.refl _ s, rfl, orgs_zero _⟩).ok e).dext

theorem buildWord_dext (s s' : CState) (w : String) (e : buildWord s w = .ok s') : DExt s s' :=
  ((buildWord_keeps (added_keeps (fun t => t = s.lastTok) s) w ⟨.refl _ s, rfl, orgs_zero _⟩).ok e).dext

def Seg (s s' : CState) (lo hi : Nat) : Prop := Added (fun t => lo ≤ t ∧ t < hi) s s'

theorem compileToks_origin (toks : List Tok) (idx : Nat) (s s' : CState) (e : compileToks toks idx s = .ok s') :
    Seg s s' idx (idx + toks.length) :=
  ((compileToks_keeps (added_keeps _ s) toks idx s
    (fun _ _ hm => tokOk_of (added_keeps _ s) ⟨(List.mem_zipIdx hm).1, (List.mem_zipIdx hm).2.1⟩)
    (.refl _ s) (orgs_zero _)).ok e).1

end Xeh.Compile
