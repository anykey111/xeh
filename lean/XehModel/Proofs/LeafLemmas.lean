/-
A symbolic executor for `Xeh.MI.evalFn`: the bridge theorems (Proofs/Leaf/*.lean) evaluate a concrete AST, regenerated
from the Rust source on every run, on symbolic integer arguments. The evaluator's rules are equations in the simp set
`mi`: the equations of `evalE`, and each primitive resolved to `.ok …` under side conditions. `mi_eval` rewrites with
them, call by value; `mi_disch` discharges the side conditions from the hypotheses of the theorem.
-/
import XehModel.Model.MachineInt
import XehModel.Proofs.Leaf.Attr

namespace Xeh.MI

theorem InRange_of {t : Ty} {v : Int} (h1 : t.lo ≤ v) (h2 : v ≤ t.hi) : t.InRange v := Or.inr ⟨h1, h2⟩

/-- An integer type by half its span `P`: a signed type is `-P .. P - 1` and `wrap` is reduction modulo `2 * P`
    around 0, an unsigned type is `0 .. P - 1` and `wrap` is reduction modulo `P`. -/
theorem Ty.shape (t : Ty) (ht : t ≠ .lit) : ∃ P : Int,
    (t.signed = true ∧ t.lo = -P ∧ t.hi = P - 1 ∧ ∀ v, t.wrap v = (v + P) % (2 * P) - P) ∨
    (t.signed = false ∧ t.lo = 0 ∧ t.hi = P - 1 ∧ ∀ v, t.wrap v = v % P) := by
  cases t
  case lit => exact absurd rfl ht
  case i8 | i16 | i32 | i64 | i128 | isize => exact ⟨_, .inl ⟨rfl, rfl, rfl, fun _ => rfl⟩⟩
  all_goals exact ⟨_, .inr ⟨rfl, rfl, rfl, fun _ => rfl⟩⟩

@[mi] theorem wrap_id {t : Ty} {v : Int} (h1 : t.lo ≤ v) (h2 : v ≤ t.hi) : t.wrap v = v := by
  by_cases ht : t = .lit
  · subst ht; rfl
  obtain ⟨P, ⟨_, e1, e2, hw⟩ | ⟨_, e1, e2, hw⟩⟩ := t.shape ht
  · rw [e1] at h1; rw [e2] at h2
    rw [hw, Int.emod_eq_of_lt (by omega) (by omega)]; omega
  · rw [e1] at h1; rw [e2] at h2
    rw [hw]; exact Int.emod_eq_of_lt h1 (by omega)

/-- Only the first argument of a `bind` is rewritten; once it is `.ok a`, `Res.bind_ok` (tried
    before the subterms) passes `a` on. So a continuation is entered with its value, never with a
    bound variable, on which every conditional rule below would be tried and fail. -/
@[congr] theorem Res.bind_congr {x y : Res α} {f : α → Res β} (h : x = y) : x.bind f = y.bind f := h ▸ rfl

attribute [mi ↓] Res.bind_ok if_pos if_neg
attribute [mi] one_ok evalFn Ty.unsignedOf Ty.lo Ty.hi decide_eq_true_eq
  List.reverse_cons List.reverse_nil List.nil_append List.cons_append List.map_cons List.map_nil
  List.getElem?_cons_zero List.getElem?_cons_succ Res.ok.injEq List.cons.injEq and_true true_and

theorem fit_ok {p : Profile} {t : Ty} {v : Int} {site : String} (h1 : t.lo ≤ v) (h2 : v ≤ t.hi) :
    fit p t v site = .ok ⟨v, t⟩ := by
  simp [fit, InRange_of h1 h2]

@[mi] theorem coerce_same (a : Int) (t : Ty) : coerce t ⟨a, t⟩ = .ok ⟨a, t⟩ := by simp [coerce]

@[mi] theorem coerce_lit {a : Int} {t : Ty} (ht : t ≠ .lit) (hi : t.isInt = true) (h1 : t.lo ≤ a) (h2 : a ≤ t.hi) :
    coerce t ⟨a, .lit⟩ = .ok ⟨a, t⟩ := by
  simp [coerce, hi, InRange_of h1 h2, Ne.symm ht]

@[mi] theorem unify_same (a b : Int) (t : Ty) : unify ⟨a, t⟩ ⟨b, t⟩ = .ok (t, a, b) := by simp [unify]

@[mi] theorem unify_litL {a b : Int} {t : Ty} (ht : t ≠ .lit) (hi : t.isInt = true) (h1 : t.lo ≤ a) (h2 : a ≤ t.hi) :
    unify ⟨a, .lit⟩ ⟨b, t⟩ = .ok (t, a, b) := by
  simp [unify, coerce_lit ht hi h1 h2, Ne.symm ht]

@[mi] theorem unify_litR {a b : Int} {t : Ty} (ht : t ≠ .lit) (hi : t.isInt = true) (h1 : t.lo ≤ b) (h2 : b ≤ t.hi) :
    unify ⟨a, t⟩ ⟨b, .lit⟩ = .ok (t, a, b) := by
  simp [unify, coerce_lit ht hi h1 h2, ht]

@[mi] theorem asBool_boolVal (b : Bool) : asBool (boolVal b) = .ok b := by
  cases b <;> simp [asBool, boolVal]

@[mi] theorem coerce_boolVal (b : Bool) : coerce .bool (boolVal b) = .ok (boolVal b) := coerce_same _ _

/-- what is left of `a && b` when the hypotheses do not decide `a` -/
@[mi] theorem and_boolVal {P : Prop} [Decidable P] {b : Bool} :
    (if P then Res.ok [boolVal b] else .ok [boolVal false]) = .ok [boolVal (decide P && b)] := by
  by_cases h : P <;> simp [h]

@[mi] theorem boolVal_v (b : Bool) : (boolVal b).v = if b then 1 else 0 := rfl

@[mi] theorem binop_arith {p : Profile} {op : BinOp} {x y : Val} (hop : op ≠ .shl ∧ op ≠ .shr) :
    binop p op x y = (unify x y).bind fun u => arith p op u.1 u.2.1 u.2.2 := by
  cases op <;> simp_all [binop]

@[mi] theorem arith_add_ok {p : Profile} {t : Ty} {x y : Int} (ht : t ≠ .bool) (h1 : t.lo ≤ x + y) (h2 : x + y ≤ t.hi) :
    arith p .add t x y = .ok ⟨x + y, t⟩ := by simp [arith, ht, fit_ok h1 h2]
@[mi] theorem arith_sub_ok {p : Profile} {t : Ty} {x y : Int} (ht : t ≠ .bool) (h1 : t.lo ≤ x - y) (h2 : x - y ≤ t.hi) :
    arith p .sub t x y = .ok ⟨x - y, t⟩ := by simp [arith, ht, fit_ok h1 h2]
@[mi] theorem arith_mul_ok {p : Profile} {t : Ty} {x y : Int} (ht : t ≠ .bool) (h1 : t.lo ≤ x * y) (h2 : x * y ≤ t.hi) :
    arith p .mul t x y = .ok ⟨x * y, t⟩ := by simp [arith, ht, fit_ok h1 h2]

theorem ediv_inRange {t : Ty} {x y : Int} (hx : 0 ≤ x) (hy : 0 < y) (h1 : t.lo ≤ 0) (h2 : x ≤ t.hi) :
    t.InRange (x / y) :=
  InRange_of (Int.le_trans h1 (Int.ediv_nonneg hx (Int.le_of_lt hy))) (Int.le_trans (Int.ediv_le_self _ hx) h2)

@[mi] theorem arith_div_nonneg {p : Profile} {t : Ty} {x y : Int} (ht : t ≠ .bool) (hx : 0 ≤ x) (hy : 0 < y)
    (h1 : t.lo ≤ 0) (h2 : x ≤ t.hi) : arith p .div t x y = .ok ⟨x / y, t⟩ := by
  simp [arith, ht, Int.ne_of_gt hy, Int.tdiv_eq_ediv_of_nonneg hx, ediv_inRange hx hy h1 h2]

@[mi] theorem arith_rem_nonneg {p : Profile} {t : Ty} {x y : Int} (ht : t ≠ .bool) (hx : 0 ≤ x) (hy : 0 < y)
    (h1 : t.lo ≤ 0) (h2 : x ≤ t.hi) : arith p .rem t x y = .ok ⟨x % y, t⟩ := by
  simp [arith, ht, Int.ne_of_gt hy, Int.tdiv_eq_ediv_of_nonneg hx, Int.tmod_eq_emod_of_nonneg hx,
    ediv_inRange hx hy h1 h2]

@[mi] theorem arith_eq {p : Profile} {t : Ty} {x y : Int} : arith p .eq t x y = .ok (boolVal (decide (x = y))) := rfl
@[mi] theorem arith_ne {p : Profile} {t : Ty} {x y : Int} : arith p .ne t x y = .ok (boolVal (decide (x ≠ y))) := rfl
@[mi] theorem arith_lt {p : Profile} {t : Ty} {x y : Int} (ht : t ≠ .bool) :
    arith p .lt t x y = .ok (boolVal (decide (x < y))) := by simp [arith, ht]
@[mi] theorem arith_le {p : Profile} {t : Ty} {x y : Int} (ht : t ≠ .bool) :
    arith p .le t x y = .ok (boolVal (decide (x ≤ y))) := by simp [arith, ht]
@[mi] theorem arith_gt {p : Profile} {t : Ty} {x y : Int} (ht : t ≠ .bool) :
    arith p .gt t x y = .ok (boolVal (decide (x > y))) := by simp [arith, ht]
@[mi] theorem arith_ge {p : Profile} {t : Ty} {x y : Int} (ht : t ≠ .bool) :
    arith p .ge t x y = .ok (boolVal (decide (x ≥ y))) := by simp [arith, ht]

@[mi] theorem arith_band {p : Profile} {t : Ty} {x y : Int} (ht : t ≠ .lit) :
    arith p .band t x y = .ok ⟨bitAnd t x y, t⟩ := by simp [arith, ht]
@[mi] theorem arith_bor {p : Profile} {t : Ty} {x y : Int} (ht : t ≠ .lit) :
    arith p .bor t x y = .ok ⟨bitOr t x y, t⟩ := by simp [arith, ht]
@[mi] theorem arith_bxor {p : Profile} {t : Ty} {x y : Int} (ht : t ≠ .lit) :
    arith p .bxor t x y = .ok ⟨bitXor t x y, t⟩ := by simp [arith, ht]

@[mi] theorem unop_neg_ok {p : Profile} {t : Ty} {a : Int} (ht : t.signed = true) (h1 : t.lo ≤ -a) (h2 : -a ≤ t.hi) :
    unop p .neg ⟨a, t⟩ = .ok ⟨-a, t⟩ := by
  have : t ≠ .lit := by intro h; subst h; simp [Ty.signed] at ht
  simp [unop, this, ht, fit_ok h1 h2]

@[mi] theorem unop_not_int {p : Profile} {t : Ty} {a : Int} (h1 : t ≠ .bool) (h2 : t ≠ .lit) :
    unop p .not ⟨a, t⟩ = .ok ⟨bitNot t a, t⟩ := by simp [unop, h1, h2]

@[mi] theorem unop_not_bool {p : Profile} {b : Bool} : unop p .not (boolVal b) = .ok (boolVal (!b)) := by
  cases b <;> simp [unop, boolVal]

@[mi] theorem castTo_ok {t : Ty} {x : Val} (h : t ≠ .lit ∧ t ≠ .bool) : castTo t x = .ok ⟨t.wrap x.v, t⟩ := by
  simp [castTo, h.1, h.2]

@[mi] theorem meth1_abs_ok {p : Profile} {t : Ty} {a : Int} (ht : t.signed = true)
    (h2 : (a.natAbs : Int) ≤ t.hi) : meth1 p .abs ⟨a, t⟩ = .ok ⟨(a.natAbs : Int), t⟩ := by
  have h1 : t.lo ≤ (a.natAbs : Int) := by
    cases t <;> simp [Ty.signed] at ht <;> simp [Ty.lo] <;> omega
  simp [meth1, ht, fit_ok h1 h2]

@[mi] theorem meth1_unsignedAbs {p : Profile} {t : Ty} {a : Int} (ht : t.signed = true) :
    meth1 p .unsignedAbs ⟨a, t⟩ = .ok ⟨(a.natAbs : Int), t.unsignedOf⟩ := by simp [meth1, ht]

@[mi] theorem meth1_wrappingNeg {p : Profile} {t : Ty} {a : Int} (ht : t.signed = true) :
    meth1 p .wrappingNeg ⟨a, t⟩ = .ok ⟨t.wrap (-a), t⟩ := by simp [meth1, ht]

@[mi] theorem meth2_shl {p : Profile} {t : Ty} {a : Int} {y : Val} (ht : t ≠ .lit ∧ t ≠ .bool) :
    meth2 p .wrappingShl ⟨a, t⟩ y =
      (coerce .u32 y).bind fun k => .ok ⟨shlW t a (k.v % t.bits).toNat, t⟩ := by
  simp [meth2, ht.1, ht.2, wshift]

@[mi] theorem meth2_shr {p : Profile} {t : Ty} {a : Int} {y : Val} (ht : t ≠ .lit ∧ t ≠ .bool) :
    meth2 p .wrappingShr ⟨a, t⟩ y =
      (coerce .u32 y).bind fun k => .ok ⟨shrW t a (k.v % t.bits).toNat, t⟩ := by
  simp [meth2, ht.1, ht.2, wshift]

@[mi] theorem meth2_same {p : Profile} {m : Meth2} {t : Ty} {a : Int} {y : Val} (ht : t ≠ .lit ∧ t ≠ .bool)
    (hm : m ≠ .wrappingShl ∧ m ≠ .wrappingShr) :
    meth2 p m ⟨a, t⟩ y = (coerce t y).bind fun b => meth2Same m t a b.v := by
  cases m <;> simp_all [meth2]

@[mi] theorem m2s_min {t : Ty} {a b : Int} : meth2Same .min t a b = .ok ⟨min a b, t⟩ := rfl
@[mi] theorem m2s_max {t : Ty} {a b : Int} : meth2Same .max t a b = .ok ⟨max a b, t⟩ := rfl
@[mi] theorem m2s_wadd {t : Ty} {a b : Int} : meth2Same .wrappingAdd t a b = .ok ⟨t.wrap (a + b), t⟩ := rfl
@[mi] theorem m2s_wsub {t : Ty} {a b : Int} : meth2Same .wrappingSub t a b = .ok ⟨t.wrap (a - b), t⟩ := rfl
@[mi] theorem m2s_wmul {t : Ty} {a b : Int} : meth2Same .wrappingMul t a b = .ok ⟨t.wrap (a * b), t⟩ := rfl

@[mi] theorem coerceAll_nil : coerceAll [] [] = .ok [] := rfl
@[mi] theorem coerceAll_cons {t : Ty} {ts : List Ty} {x : Val} {xs : List Val} :
    coerceAll (t :: ts) (x :: xs) =
      (coerce t x).bind fun y => (coerceAll ts xs).bind fun ys => .ok (y :: ys) := rfl

@[mi] theorem bindArgs_nil : bindArgs [] [] = .ok [] := rfl
@[mi] theorem bindArgs_cons {n : String} {t : Ty} {ps : List (String × Ty)} {a : Int} {as : List Int}
    (ht : t ≠ .lit) (h1 : t.lo ≤ a) (h2 : a ≤ t.hi) :
    bindArgs ((n, t) :: ps) (a :: as) = (bindArgs ps as).bind fun r => .ok (⟨a, t⟩ :: r) := by
  simp [bindArgs, ht, InRange_of h1 h2]

/- The equations of `evalE`, one per constructor that the translated sources use (so none for `||`: `ev_or` has
   premises and is no rewrite rule; an AST with `orE` leaves `mi_eval` stuck). As theorems: a step that unfolds
   `evalE` itself carries no proof, and `Res.bind_congr` could not use it. -/

section rules
variable {p : Profile} {env : List Val}

@[mi] theorem ev_lit {v : Int} {t : Ty} (h : t.InRange v) : evalE p env (.lit v t) = .ok [⟨v, t⟩] := by
  simp [evalE, h]
@[mi] theorem ev_tmin {t : Ty} : evalE p env (.tmin t) = .ok [⟨t.lo, t⟩] := rfl
@[mi] theorem ev_tmax {t : Ty} : evalE p env (.tmax t) = .ok [⟨t.hi, t⟩] := rfl
@[mi] theorem ev_var {i : Nat} {n : String} : evalE p env (.var i n) =
    match env[i]? with
    | some x => .ok [x]
    | none => .panic "type: unbound variable" := rfl
@[mi] theorem ev_un {op : UnOp} {e : Expr} : evalE p env (.un op e) =
    (one (evalE p env e)).bind fun a => (unop p op a).bind fun r => .ok [r] := rfl
@[mi] theorem ev_bin {op : BinOp} {a b : Expr} : evalE p env (.bin op a b) =
    (one (evalE p env a)).bind fun x => (one (evalE p env b)).bind fun y =>
      (binop p op x y).bind fun r => .ok [r] := rfl
@[mi] theorem ev_and {a b : Expr} : evalE p env (.andE a b) =
    (one (evalE p env a)).bind fun x => (asBool x).bind fun bx =>
      if bx then (one (evalE p env b)).bind fun y => (asBool y).bind fun by_ => .ok [boolVal by_]
      else .ok [boolVal false] := rfl
@[mi] theorem ev_cast {e : Expr} {t : Ty} : evalE p env (.cast e t) =
    (one (evalE p env e)).bind fun x => (castTo t x).bind fun r => .ok [r] := rfl
@[mi] theorem ev_m1 {m : Meth1} {e : Expr} : evalE p env (.m1 m e) =
    (one (evalE p env e)).bind fun x => (meth1 p m x).bind fun r => .ok [r] := rfl
@[mi] theorem ev_m2 {m : Meth2} {a b : Expr} : evalE p env (.m2 m a b) =
    (one (evalE p env a)).bind fun x => (one (evalE p env b)).bind fun y =>
      (meth2 p m x y).bind fun r => .ok [r] := rfl
@[mi] theorem ev_ite {c t e : Expr} : evalE p env (.ite c t e) =
    (one (evalE p env c)).bind fun x => (asBool x).bind fun bx =>
      if bx then evalE p env t else evalE p env e := rfl
@[mi] theorem ev_let {n : String} {v body : Expr} : evalE p env (.letE n v body) =
    (one (evalE p env v)).bind fun x => evalE p (x :: env) body := rfl
@[mi] theorem ev_pair {a b : Expr} : evalE p env (.pair a b) =
    (evalE p env a).bind fun xs => (evalE p env b).bind fun ys => .ok (xs ++ ys) := rfl
@[mi] theorem ev_none : evalE p env .none = .ok [boolVal false, ⟨0, .lit⟩] := rfl
@[mi] theorem ev_some {e : Expr} : evalE p env (.some e) =
    (one (evalE p env e)).bind fun x => .ok [boolVal true, x] := rfl
@[mi] theorem ev_callFn {f : FnAst} {args : Expr} : evalE p env (Expr.callFn f args) =
    (evalE p env args).bind fun xs => (coerceAll (f.params.map (·.2)) xs).bind fun ys =>
      (evalE p ys.reverse f.body).bind fun rs => coerceAll f.ret rs := rfl
theorem ev_or {a b : Expr} {P Q : Prop} {dP : Decidable P} {dQ : Decidable Q}
    (ha : evalE p env a = .ok [boolVal (@decide P dP)]) (hb : evalE p env b = .ok [boolVal (@decide Q dQ)]) :
    evalE p env (.orE a b) = .ok [boolVal (decide (P ∨ Q))] := by
  by_cases hp : P <;> by_cases hq : Q <;> simp [evalE, ha, hb, asBool_boolVal, hp, hq]
@[mi] theorem ev_unit : evalE p env .unit = .ok [] := rfl

end rules
end Xeh.MI

/-- discharger for the side conditions of the rules: a closed fact about types, or linear
    arithmetic over the hypotheses of the theorem once `T::MIN`, `T::MAX` are numerals and the
    condition of an `if` is a proposition (`Ty.lo`, `Ty.hi`, `decide_eq_true_eq` in `mi`) -/
macro "mi_disch" : tactic =>
  `(tactic| first
    | decide
    | (simp -failIfUnchanged only [mi]; omega))

/-- Run the evaluator on the functions `fs` (the one under test and its callees). A step by a
    `rfl` rule must carry its proof (`-implicitDefEqProofs`), else `Res.bind_congr` cannot use it:
    `evalE` and the primitives do not unfold by themselves. -/
macro "mi_eval" fs:(ppSpace colGt ident)* : tactic =>
  `(tactic| (unfold $fs*; simp -implicitDefEqProofs (disch := mi_disch) only [mi]))
