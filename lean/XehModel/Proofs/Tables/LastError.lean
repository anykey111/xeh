/-
Tie B, tables (DESIGN §4.2) — who clears the last error, who gives a program up (method: Proofs/LeafTables.lean).
-/
import XehModel.Generated.Tables

namespace Xeh.LeafBridge
open Xeh.Generated

/-- `abort_run` does not clear the last error: a host calls it BEFORE it asks where the program failed.  The REPL is the
    only caller of `abort_run` inside the crate. -/
theorem last_error_cleared_only_by_a_new_start :
    src_call_sites.filter (fun r => r.1 == "clear_last_error" || r.1 == "abort_run") =
      [("abort_run", "run_line", "repl.rs"),
       ("clear_last_error", "build0", "state.rs"), ("clear_last_error", "run_immediate", "state.rs"),
       ("clear_last_error", "run", "state.rs"), ("clear_last_error", "next", "state.rs"),
       ("clear_last_error", "rnext", "state.rs")] := by
  decide +kernel

theorem abort_run_keeps_the_last_error :
    ∀ r ∈ src_call_sites, r.1 = "clear_last_error" → r.2.1 ≠ "abort_run" := by
  decide +kernel

end Xeh.LeafBridge
