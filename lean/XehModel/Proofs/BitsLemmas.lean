/-
The L0 bit-list specification (Model/Bits.lean): `bitsOfNat n v` is the list of the `n` low binary digits of `v`
(`getElem?_bitsOfNat`), and bit `i` of a byte list is a digit of byte `i / 8` (`getElem?_ofBytes`); shifts and masks as edits
of the digit list; values of lists (`beVal`, `leVal`), groups of 8, slices, and residues of integers modulo `2^N`.
-/
import XehModel.Model.Bits

namespace Xeh.Bits

@[simp] theorem beVal_nil : beVal [] = 0 := rfl

theorem beVal_cons (b : Bool) (r : List Bool) : beVal (b :: r) = b.toNat * 2 ^ r.length + beVal r := rfl

theorem beVal_lt (l : List Bool) : beVal l < 2 ^ l.length := by
  induction l with
  | nil => simp
  | cons b r ih =>
    rw [beVal_cons, List.length_cons, Nat.pow_succ]
    cases b <;> simp <;> omega

theorem beVal_append (a b : List Bool) : beVal (a ++ b) = beVal a * 2 ^ b.length + beVal b := by
  induction a with
  | nil => simp
  | cons x r ih =>
    rw [List.cons_append, beVal_cons, ih, beVal_cons, List.length_append, Nat.pow_add,
      Nat.add_mul, Nat.mul_assoc, Nat.add_assoc]

/-- how the codecs splice a group below an accumulator: `(a << k) as uN | c` -/
theorem shl_mod_or (a c k m : Nat) (hc : c < 2 ^ k) (hm : a * 2 ^ k + c < m) :
    (a <<< k) % m ||| c = a * 2 ^ k + c := by
  rw [Nat.shiftLeft_eq, Nat.mod_eq_of_lt (by omega), ← Nat.shiftLeft_eq, ← Nat.shiftLeft_add_eq_or_of_lt hc,
    Nat.shiftLeft_eq]

theorem beVal_append_or (A B : List Bool) (m : Nat) (hm : 2 ^ (A.length + B.length) ≤ m) :
    (beVal A <<< B.length) % m ||| beVal B = beVal (A ++ B) := by
  have hlt := beVal_lt (A ++ B)
  rw [List.length_append, beVal_append] at hlt
  rw [beVal_append, shl_mod_or _ _ _ _ (beVal_lt B) (by omega)]

@[simp] theorem bitsOfNat_length (n v : Nat) : (bitsOfNat n v).length = n := by
  induction n with
  | zero => rfl
  | succ n ih => simp [bitsOfNat, ih]

theorem bitsOfNat_succ (n v : Nat) : bitsOfNat (n + 1) v = v.testBit n :: bitsOfNat n v := by
  rw [bitsOfNat, Nat.testBit_eq_decide_div_mod_eq, Bool.beq_eq_decide_eq]

theorem getElem?_bitsOfNat (n v i : Nat) :
    (bitsOfNat n v)[i]? = if i < n then some (v.testBit (n - 1 - i)) else none := by
  induction n generalizing i with
  | zero => rfl
  | succ n ih =>
    rw [bitsOfNat_succ]
    cases i with
    | zero => rfl
    | succ i =>
      rw [List.getElem?_cons_succ, ih]
      have : n + 1 - 1 - (i + 1) = n - 1 - i := by omega
      simp only [Nat.add_lt_add_iff_right, this]

theorem bitsOfNat_congr {n a b : Nat} (h : ∀ j, j < n → a.testBit j = b.testBit j) :
    bitsOfNat n a = bitsOfNat n b := by
  apply List.ext_getElem?
  intro i
  rw [getElem?_bitsOfNat, getElem?_bitsOfNat]
  split
  · rw [h _ (by omega)]
  · rfl

theorem bitsOfNat_mod_of_le (n m v : Nat) (h : n ≤ m) : bitsOfNat n (v % 2 ^ m) = bitsOfNat n v :=
  bitsOfNat_congr fun j hj => by
    rw [Nat.testBit_mod_two_pow, decide_eq_true (Nat.lt_of_lt_of_le hj h), Bool.true_and]

theorem bitsOfNat_mod (n v : Nat) : bitsOfNat n (v % 2 ^ n) = bitsOfNat n v :=
  bitsOfNat_mod_of_le n n v (Nat.le_refl n)

theorem bitsOfNat_zero (n : Nat) : bitsOfNat n 0 = List.replicate n false := by
  induction n with
  | zero => rfl
  | succ n ih => rw [bitsOfNat_succ, ih, Nat.zero_testBit, List.replicate_succ]

theorem beVal_bitsOfNat (n v : Nat) : beVal (bitsOfNat n v) = v % 2 ^ n := by
  induction n with
  | zero => rw [Nat.pow_zero, Nat.mod_one]; rfl
  | succ n ih =>
    rw [bitsOfNat_succ, beVal_cons, ih, bitsOfNat_length, Nat.toNat_testBit, Nat.mod_pow_succ,
      Nat.mul_comm, Nat.add_comm]

theorem bitsOfNat_split (a b v : Nat) : bitsOfNat (a + b) v = bitsOfNat a (v / 2 ^ b) ++ bitsOfNat b v := by
  induction a with
  | zero => rw [Nat.zero_add]; rfl
  | succ a ih =>
    rw [Nat.add_right_comm, bitsOfNat_succ, bitsOfNat_succ, ih, Nat.testBit_div_two_pow, List.cons_append]

theorem bitsOfNat_drop (n k v : Nat) : (bitsOfNat n v).drop k = bitsOfNat (n - k) v := by
  by_cases h : k ≤ n
  · obtain ⟨m, rfl⟩ := Nat.exists_eq_add_of_le h
    rw [bitsOfNat_split, List.drop_left' (bitsOfNat_length _ _), Nat.add_sub_cancel_left]
  · rw [List.drop_eq_nil_of_le (by rw [bitsOfNat_length]; omega), show n - k = 0 by omega]; rfl

theorem bitsOfNat_take (n k v : Nat) (h : k ≤ n) : (bitsOfNat n v).take k = bitsOfNat k (v / 2 ^ (n - k)) := by
  obtain ⟨m, rfl⟩ := Nat.exists_eq_add_of_le h
  rw [bitsOfNat_split, List.take_left' (bitsOfNat_length _ _), Nat.add_sub_cancel_left]

theorem bitsOfNat_shiftLeft (a b v : Nat) :
    bitsOfNat (a + b) ((v <<< b) % 2 ^ (a + b)) = bitsOfNat a v ++ List.replicate b false := by
  rw [bitsOfNat_mod, bitsOfNat_split, Nat.shiftLeft_eq, Nat.mul_div_cancel _ (Nat.two_pow_pos b),
    ← bitsOfNat_mod b, Nat.mul_mod_left, bitsOfNat_zero]

theorem toNat_shiftLeft_lt (x : Bool) {m n : Nat} (h : m < n) : x.toNat <<< m < 2 ^ n := by
  rw [Nat.shiftLeft_eq]
  calc x.toNat * 2 ^ m ≤ 1 * 2 ^ m := Nat.mul_le_mul_right _ (Bool.toNat_le x)
    _ < 2 ^ n := by rw [Nat.one_mul]; exact Nat.pow_lt_pow_right (by decide) h

/-- `d & !(ones >> r)` keeps the first `r` digits and clears the rest -/
theorem bitsOfNat_and_high (n d r : Nat) (hr : r ≤ n) :
    bitsOfNat n (d &&& (2 ^ n - 1 - (2 ^ n - 1) >>> r)) =
      (bitsOfNat n d).take r ++ List.replicate (n - r) false := by
  have hlt : (2 ^ n - 1) >>> r < 2 ^ n := by
    rw [Nat.shiftRight_eq_div_pow]
    exact Nat.lt_of_le_of_lt (Nat.div_le_self _ _) (Nat.sub_one_lt (Nat.ne_of_gt (Nat.two_pow_pos n)))
  apply List.ext_getElem?
  intro i
  -- digit `j` of the mask: `j < n` and not `r + j < n`
  rw [getElem?_bitsOfNat, Nat.sub_sub, Nat.add_comm 1, Nat.testBit_and, Nat.testBit_two_pow_sub_succ hlt,
    Nat.testBit_shiftRight, Nat.testBit_two_pow_sub_one, List.getElem?_append, List.length_take,
    bitsOfNat_length, Nat.min_eq_left hr, List.getElem?_take, getElem?_bitsOfNat, List.getElem?_replicate]
  by_cases hi : i < r
  · have h1 : i < n := by omega
    have h2 : ¬ r + (n - 1 - i) < n := by omega
    have h3 : n - 1 - i < n := by omega
    simp [hi, h1, h2, h3]
  · by_cases hn : i < n
    · have h2 : r + (n - 1 - i) < n := by omega
      have h3 : i - r < n - r := by omega
      simp [hi, hn, h2, h3]
    · have h3 : ¬ i - r < n - r := by omega
      simp [hi, hn, h3]

/-- `!(ones << len)` in `N` digits is the mask of the `len` low digits -/
theorem low_mask (N len : Nat) (h : len ≤ N) : 2 ^ N - 1 - ((2 ^ N - 1) <<< len) % 2 ^ N = 2 ^ len - 1 := by
  apply Nat.eq_of_testBit_eq
  intro j
  rw [Nat.sub_sub, Nat.add_comm 1, Nat.testBit_two_pow_sub_succ (Nat.mod_lt _ (Nat.two_pow_pos N)),
    Nat.testBit_mod_two_pow, Nat.testBit_shiftLeft, Nat.testBit_two_pow_sub_one, Nat.testBit_two_pow_sub_one]
  by_cases hj : j < len
  · have : j < N := by omega
    simp [hj, this]
  · by_cases hN : j < N
    · have : j - len < N := by omega
      simp [hj, hN, this]; omega
    · simp [hj, hN]

@[simp] theorem chunks8_nil : chunks8 [] = [] := by
  rw [chunks8]; simp

theorem chunks8_of_ne {l : List Bool} (h : l ≠ []) : chunks8 l = l.take 8 :: chunks8 (l.drop 8) := by
  rw [chunks8]; simp [h]

theorem chunks8_short {l : List Bool} (h : l ≠ []) (h8 : l.length ≤ 8) : chunks8 l = [l] := by
  rw [chunks8_of_ne h, List.take_of_length_le h8, List.drop_eq_nil_of_le h8, chunks8_nil]

theorem drop8_induction {P : List Bool → Prop} (nil : P []) (step : ∀ l, l ≠ [] → P (l.drop 8) → P l) :
    ∀ l, P l := by
  intro l
  induction hn : l.length using Nat.strongRecOn generalizing l with
  | _ n ih =>
    by_cases h : l = []
    · exact h ▸ nil
    · refine step l h (ih _ ?_ _ rfl)
      have := List.length_pos_iff.mpr h
      rw [List.length_drop]; omega

@[simp] theorem leVal_nil : leVal [] = 0 := by simp [leVal, leGroups]

theorem leVal_of_ne {l : List Bool} (h : l ≠ []) :
    leVal l = beVal (l.take 8) + 256 * leVal (l.drop 8) := by
  simp [leVal, chunks8_of_ne h, leGroups]

theorem leVal_lt (l : List Bool) : leVal l < 2 ^ l.length := by
  induction l using drop8_induction with
  | nil => rw [leVal_nil]; exact Nat.two_pow_pos _
  | step l h ih =>
    rw [leVal_of_ne h]
    have h1 := beVal_lt (l.take 8)
    by_cases h8 : l.length ≤ 8
    · rw [List.drop_eq_nil_of_le h8, leVal_nil, List.take_of_length_le h8] at *
      exact h1
    · rw [List.length_take, Nat.min_eq_left (by omega)] at h1
      rw [List.length_drop] at ih
      rw [show l.length = 8 + (l.length - 8) by omega, Nat.pow_add]
      omega

theorem leVal_append8 (A R : List Bool) (hA : A.length = 8) : leVal (A ++ R) = beVal A + 256 * leVal R := by
  have hne : A ++ R ≠ [] := by
    intro h; have := congrArg List.length h; simp [hA] at this
  rw [leVal_of_ne hne, List.take_left' hA, List.drop_left' hA]

theorem leVal_short (l : List Bool) (h8 : l.length ≤ 8) : leVal l = beVal l := by
  by_cases h : l = []
  · subst h; simp
  · rw [leVal_of_ne h, List.take_of_length_le h8, List.drop_eq_nil_of_le h8]; simp

/-! ### residues of integers: `v mod 2^N` as a natural number is `v as uN` -/

theorem natCast_emod_toNat (v : Int) (w : Nat) : (((v % 2 ^ w).toNat : Nat) : Int) = v % 2 ^ w :=
  Int.toNat_of_nonneg (Int.emod_nonneg _ (Int.pow_ne_zero (by decide)))

theorem emod_toNat_lt (v : Int) (n : Nat) : (v % 2 ^ n).toNat < 2 ^ n := by
  rw [Int.toNat_lt (Int.emod_nonneg _ (Int.pow_ne_zero (by decide))), Int.natCast_pow]
  exact Int.emod_lt_of_pos _ (Int.pow_pos (by decide))

theorem ediv_emod_toNat (v : Int) (i k N : Nat) (h : i + k ≤ N) :
    ((v / 2 ^ i) % 2 ^ k).toNat = (v % 2 ^ N).toNat / 2 ^ i % 2 ^ k := by
  have hN : (2 : Int) ^ N = 2 ^ i * (2 ^ k * 2 ^ (N - i - k)) := by
    rw [← Int.pow_add, ← Int.pow_add]; congr 1; omega
  have hu0 : 0 ≤ v % 2 ^ N := Int.emod_nonneg _ (Int.ne_of_gt (Int.pow_pos (by decide)))
  obtain ⟨u, hu⟩ := Int.eq_ofNat_of_zero_le hu0
  have hv : (u : Int) + 2 ^ N * (v / 2 ^ N) = v := by
    rw [← hu]; exact Int.emod_add_mul_ediv v (2 ^ N)
  generalize v / 2 ^ N = q at hv
  have hi : (2 : Int) ^ i ≠ 0 := Int.ne_of_gt (Int.pow_pos (by decide))
  have h1 : v / 2 ^ i % 2 ^ k = (u : Int) / 2 ^ i % 2 ^ k := by
    rw [← hv, hN, Int.mul_assoc, Int.add_mul_ediv_left _ _ hi, Int.mul_assoc, Int.add_mul_emod_self_left]
  have h2 : (u : Int) / 2 ^ i % 2 ^ k = ((u / 2 ^ i % 2 ^ k : Nat) : Int) := by simp
  rw [hu, h1, h2, Int.toNat_natCast, Int.toNat_natCast]

theorem emod_toNat_mod (v : Int) (k N : Nat) (h : k ≤ N) : (v % 2 ^ N).toNat % 2 ^ k = (v % 2 ^ k).toNat := by
  have := ediv_emod_toNat v 0 k N (by omega)
  simpa using this.symm

theorem slice_length (l : List Bool) (a b : Nat) (hb : b ≤ l.length) : (slice l a b).length = b - a := by
  simp [slice]; omega

theorem slice_split (l : List Bool) (a m b : Nat) (h1 : a ≤ m) (h2 : m ≤ b) :
    slice l a b = slice l a m ++ slice l m b := by
  unfold slice
  have : b - a = (m - a) + (b - m) := by omega
  rw [this, List.take_add, List.drop_drop]
  congr 3; omega

theorem slice_self (l : List Bool) (a : Nat) : slice l a a = [] := by simp [slice]

theorem slice_take8 (l : List Bool) (a b : Nat) : (slice l a b).take 8 = slice l a (a + min (b - a) 8) := by
  simp [slice, List.take_take, Nat.min_comm]

theorem slice_drop8 (l : List Bool) (a b : Nat) : (slice l a b).drop 8 = slice l (a + min (b - a) 8) b := by
  simp only [slice, List.drop_take, List.drop_drop]
  by_cases h : b - a ≤ 8
  · rw [Nat.min_eq_left h]
    have : b - (a + (b - a)) = 0 := by omega
    have h1 : b - a - 8 = 0 := by omega
    rw [this, h1]; simp
  · rw [Nat.min_eq_right (by omega)]
    congr 1

theorem slice_drop (l : List Bool) (a b k : Nat) : (slice l a b).drop k = slice l (a + k) b := by
  simp only [slice, List.drop_take, List.drop_drop]
  congr 1; omega

theorem slice_take (l : List Bool) (a b k : Nat) (hk : a + k ≤ b) : (slice l a b).take k = slice l a (a + k) := by
  simp only [slice, List.take_take]
  congr 1; omega

theorem slice_slice (l : List Bool) (a b i j : Nat) (h : a + j ≤ b) :
    slice (slice l a b) i j = slice l (a + i) (a + j) := by
  have hd : slice (slice l a b) i j = ((slice l a b).drop i).take (j - i) := rfl
  rw [hd, slice_drop]
  by_cases hij : i ≤ j
  · rw [slice_take _ _ _ _ (by omega)]; congr 1; omega
  · have h0 : j - i = 0 := by omega
    rw [h0]; unfold slice
    have : a + j - (a + i) = 0 := by omega
    rw [this]; simp

theorem slice_full (l : List Bool) : slice l 0 l.length = l := by simp [slice]

theorem ofBytes_length (bs : List Nat) : (ofBytes bs).length = 8 * bs.length := by
  induction bs with
  | nil => rfl
  | cons b r ih => simp [ofBytes, List.flatMap_cons] at *; omega

theorem ofBytes_cons (b : Nat) (r : List Nat) : ofBytes (b :: r) = bitsOfNat 8 b ++ ofBytes r := by
  simp [ofBytes, List.flatMap_cons]

/-- bit `i` of a buffer: the byte it lies in, the digit counted from the top -/
theorem getElem?_ofBytes (bs : List Nat) (i : Nat) :
    (ofBytes bs)[i]? = (bs[i / 8]?).map (·.testBit (7 - i % 8)) := by
  induction bs generalizing i with
  | nil => rfl
  | cons b r ih =>
    rw [ofBytes_cons, List.getElem?_append, bitsOfNat_length]
    by_cases h : i < 8
    · rw [if_pos h, getElem?_bitsOfNat, if_pos h, Nat.div_eq_of_lt h, Nat.mod_eq_of_lt h]; rfl
    · rw [if_neg h, ih, show i / 8 = (i - 8) / 8 + 1 by omega, List.getElem?_cons_succ, show (i - 8) % 8 = i % 8 by omega]

theorem ofBytes_drop (bs : List Nat) (i : Nat) : (ofBytes bs).drop (8 * i) = ofBytes (bs.drop i) := by
  induction bs generalizing i with
  | nil => simp [ofBytes]
  | cons b r ih =>
    cases i with
    | zero => simp
    | succ i =>
      rw [ofBytes_cons, List.drop_succ_cons, ← ih i]
      rw [List.drop_append, List.drop_eq_nil_of_le (by simp; omega)]
      simp
      have : 8 * (i + 1) - 8 = 8 * i := by omega
      rw [this]

theorem slice_in_byte (bs : List Nat) (p k : Nat) (hk : p % 8 + k ≤ 8) (hi : p / 8 < bs.length) :
    slice (ofBytes bs) p (p + k) = ((bitsOfNat 8 bs[p / 8]).drop (p % 8)).take k := by
  unfold slice
  have hp : p = 8 * (p / 8) + p % 8 := (Nat.div_add_mod p 8).symm
  have : (ofBytes bs).drop p = ((ofBytes bs).drop (8 * (p / 8))).drop (p % 8) := by
    rw [List.drop_drop, ← hp]
  rw [this, ofBytes_drop, List.drop_eq_getElem_cons hi, ofBytes_cons]
  rw [List.drop_append_of_le_length (by simp; omega)]
  have : p + k - p = k := by omega
  rw [this, List.take_append_of_le_length (by simp; omega)]

theorem ofBytes_append (a b : List Nat) : ofBytes (a ++ b) = ofBytes a ++ ofBytes b := by
  simp [ofBytes]

theorem leBytes_length (k v : Nat) : (leBytes k v).length = k := by
  induction k generalizing v with
  | zero => rfl
  | succ k ih => simp [leBytes, ih]

theorem leBytes_lt (k v : Nat) : ∀ b ∈ leBytes k v, b < 256 := by
  induction k generalizing v with
  | zero => intro b hb; simp [leBytes] at hb
  | succ k ih =>
    intro b hb
    simp only [leBytes, List.mem_cons] at hb
    rcases hb with hb | hb
    · rw [hb]; exact Nat.mod_lt _ (by decide)
    · exact ih _ b hb

theorem leBytes_snoc (k v : Nat) : leBytes (k + 1) v = leBytes k v ++ [v / 256 ^ k % 256] := by
  induction k generalizing v with
  | zero => simp [leBytes]
  | succ k ih =>
    rw [leBytes, ih (v / 256)]
    simp only [leBytes, List.cons_append]
    rw [Nat.div_div_eq_div_mul, Nat.pow_succ, Nat.mul_comm]

theorem beBytes_succ (k v : Nat) : beBytes (k + 1) v = (v / 256 ^ k % 256) :: beBytes k v := by
  unfold beBytes; rw [leBytes_snoc]; simp

theorem iter8_of_ne {l : List Bool} (h : l ≠ []) :
    Bits.iter8 l = (beVal (l.take 8), (l.take 8).length) :: Bits.iter8 (l.drop 8) := by
  simp [Bits.iter8, chunks8_of_ne h]

theorem and_two_pow' (x i : Nat) : x &&& 2 ^ i = if x.testBit i then 2 ^ i else 0 := by
  apply Nat.eq_of_testBit_eq
  intro j
  rw [Nat.testBit_and, Nat.testBit_two_pow]
  by_cases hij : i = j
  · subst hij
    cases h : x.testBit i <;> simp [Nat.testBit_two_pow_self]
  · cases h : x.testBit i <;> simp [hij, Nat.testBit_two_pow_of_ne hij]

theorem testBit_top (u len : Nat) (h1 : 1 ≤ len) (hu : u < 2 ^ len) :
    u.testBit (len - 1) = decide (2 ^ (len - 1) ≤ u) := by
  by_cases h : 2 ^ (len - 1) ≤ u
  · rw [Nat.testBit_of_two_pow_le_and_two_pow_add_one_gt h (by rwa [Nat.sub_add_cancel h1]), decide_eq_true h]
  · rw [Nat.testBit_lt_two_pow (Nat.lt_of_not_le h), decide_eq_false h]

/-- two rounds of `to_uint`'s `acc = (acc << n) as u128 | val` merge into one, as arithmetic modulo `M` -/
theorem mod_step (acc val n k rest M : Nat) :
    (((acc * 2 ^ n + val) % M) * 2 ^ k + rest) % M = (acc * 2 ^ (n + k) + (val * 2 ^ k + rest)) % M := by
  have h : ((acc * 2 ^ n + val) % M * 2 ^ k + rest) % M = ((acc * 2 ^ n + val) * 2 ^ k + rest) % M := by
    rw [Nat.add_mod, Nat.mul_mod, Nat.mod_mod, ← Nat.mul_mod, ← Nat.add_mod]
  rw [h, Nat.add_mul, Nat.mul_assoc, ← Nat.pow_add, Nat.add_assoc]

end Xeh.Bits
