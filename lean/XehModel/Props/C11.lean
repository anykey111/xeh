/-
C11 — meta-evaluation is sealed and equivalent to inlining its result.                      (PARTIAL)

Model: Model/Session.lean (`#(` = `context_open(MetaEval)`, the run at every token boundary of a meta
block, `#)` = `context_close`: run, truncate the block's code, purge its non-constant definitions, re-emit
the results as literals; `const`), on top of the compiler and VM models. Tied to the code by the `C11 sess`
correspondence (every intermediate state and the final bytecode of histories with meta blocks at every
position) and Tie B.

Proved here, for every machine state / dictionary / fuel:
* `meta_refuses_variables` — inside a meta block reading, writing and allocating variables fail with the
  constant-context error and change nothing.
* `meta_execution_sealed` — whatever a meta block executes (any number of instructions, whatever the
  outcome): the data stack below the block's base, the return/loop/builder stacks below their marks, every
  variable, the dictionary, the bytecode and the context marks are unchanged.
* `meta_close_purges` — closing a block leaves, of the dictionary entries added since it was opened,
  exactly constants; everything older is untouched and keeps its position.
* `source_never_changes_what_was_there_partial` — submitting a source in *compile* mode (meta blocks included, at
  every position, nested, failing or not): when it is done every variable that existed has its value, the
  data stack that existed is still there underneath, the context is the one before; and
  `compiling_changes_neither_stack_nor_variables`: nothing is left on top either — the data stack after `compile` IS
  the data stack before (Proofs/SessionQuiet.lean: the token loop followed at its base level, every meta block opened
  from there closed by the block theorems; Proofs/SessionAligned.lean).
* `meta_block_opens`, `meta_block_steps`, `meta_block_closes_clean` — a block opened outside a meta block, as a
  whole: inside it the session stays an extension of the session at the `#(` through every step the token loop
  can take; when it closes, the session is the one at the `#(` with the code extended by one literal per result
  — the opcodes the compiler emits for the same values written as literals — and only constants added to the
  dictionary.
* `meta_block_is_its_values` — the composition: "P[#( e #)] behaves like P[values of e]" for the token loop. From any
  session outside a meta block, with the `#(` at any position of the source: if the block gets closed (followed
  semantically, by the depth of the saved contexts — `#(` and `#)` are dictionary words, not syntax) and is clean
  (defines no constant, declares no variable, leaves the return/loop/builder stacks alone — the one thing the block
  theorems cannot know), then reading the rest of the source after the block and reading it after the block's values
  written as literals give the same answer, the same error, and sessions equal in everything but debug map,
  last-token marker, meter, stop flag and what the block printed (Proofs/SessionInline.lean; the congruence of the
  session model up to token positions: Proofs/SessionGhostD.lean, of the compiler: Proofs/CompileTok.lean).
  Hypotheses: recording off and no instruction limit (both are observable differences: the block's execution is logged
  and metered). Still decided per program only: blocks that define constants (`P[values]` has no counterpart for them).
* `eval_is_compile_then_run` — for an interpreter at rest, every source and every fuel: `eval src` gives the same
  answer and the same session as `compile src` followed by `run` (Proofs/SessionBase.lean: reading a source never
  looks at the base context's mode or stack floor, whatever meta blocks it contains; Proofs/VMCtx.lean, an instance of
  Proofs/VMCong.lean: the VM never reads the bookkeeping fields of a context; Proofs/SessionEval.lean).
Known finding (listed in known_findings.json): a block nested in another block shares that block's stack —
pinned by the existing suite (`test_meta_stack`), contradicting "sealed" for that position.
-/
import XehModel.Proofs.SessionEval
import XehModel.Proofs.SessionQuiet
import XehModel.Proofs.SessionInline

namespace Xeh.C11
open Xeh Xeh.Mach Xeh.Compile Xeh.Session Xeh.Session.Sess

/-- variable access and allocation refuse to work in a meta block, and leave the machine alone -/
theorem meta_refuses_variables (m : Mach) (hm : m.ctx.mode = .metaEval) (idx : Nat) (v : Cell) :
    m.cellRef idx = .err constContext ∧ m.swapCellRef idx v = (.err constContext, m) ∧
    m.allocHeap v = (.err constContext, m) := by
  simp [cellRef, swapCellRef, allocHeap, hm]

/-- whatever runs inside a meta block — any number of instructions, any outcome — cannot see past the
    block's marks and cannot change a variable, the dictionary or the bytecode -/
theorem meta_execution_sealed (np : String → Option Prog) (fuel : Nat) (m m' : Mach) (o : Outcome Unit)
    (w : WF m) (hm : m.ctx.mode = .metaEval) (h : Mach.run np fuel m = some (o, m')) :
    hidOf m'.ds m.ctx.dsLen = hidOf m.ds m.ctx.dsLen ∧ hidOf m'.rs m.ctx.rsLen = hidOf m.rs m.ctx.rsLen ∧
    hidOf m'.loops m.ctx.lsLen = hidOf m.loops m.ctx.lsLen ∧ hidOf m'.special m.ctx.ssPtr = hidOf m.special m.ctx.ssPtr ∧
    m'.heap = m.heap ∧ m'.dict = m.dict ∧ m'.code = m.code ∧ m'.ctx.marks = m.ctx.marks := by
  have sl := run_sealed np fuel m (o, m') w h
  obtain ⟨hmarks, hds, hrs, hls, hss⟩ := sl.below
  exact ⟨hds, hrs, hls, hss, sl.heapMeta hm, sl.dict, sl.codeMeta hm, hmarks⟩

/-- closing a meta block: of the dictionary entries added since the block was opened only constants remain
    (positions counted from the oldest entry); the older entries are untouched -/
theorem meta_close_purges (dict : List (String × Entry)) (diLen : Nat) (hl : diLen ≤ dict.length) :
    (∀ j, diLen ≤ j → ∀ e, (purge dict diLen).reverse[j]? = some e → ∃ c, e.2 = .const c) ∧
    hidOf (purge dict diLen) diLen = hidOf dict diLen := by
  refine ⟨fun j hj e he => ?_, (purge_old dict diLen diLen (Nat.le_refl _) hl).1⟩
  obtain ⟨cs, e1, hc⟩ := purge_spec dict diLen
  have hn : (hidOf dict diLen).reverse.length ≤ j := by rw [List.length_reverse, hidOf_length _ _ hl]; exact hj
  rw [e1, List.reverse_append, List.getElem?_append_right hn] at he
  exact hc e (List.mem_reverse.mp (List.mem_of_getElem? he))

/-- submitting a source in compile mode never changes what was there: every existing variable keeps its
    value, the existing data/return stacks and code are still there, the context is the one before —
    whatever meta blocks the source contains. (partial: that nothing is left on top of the data stack either is
    `compiling_changes_neither_stack_nor_variables`) -/
theorem source_never_changes_what_was_there_partial (fuel : Nat) (toks : List Tok) (s s' : Sess) (idle : Idle s)
    (h : s.buildSource fuel .compile toks = .done s') :
    s'.m.heap.take s.m.heap.length = s.m.heap ∧ hidOf s'.m.ds s.m.ds.length = s.m.ds ∧
    hidOf s'.m.rs s.m.rs.length = s.m.rs ∧ s'.m.code.take s.m.code.length = s.m.code ∧
    s'.m.ctx = s.m.ctx ∧ s'.nested = s.nested := by
  obtain ⟨s2, _, hb, _, rfl⟩ := compile_done idle h
  exact ⟨hb.ext0.heap, hb.ext0.ds, hb.ext0.rs, hb.ext0.code, rfl, rfl⟩

/-- **compiling a source executes nothing outside its meta blocks, so it changes neither the data stack nor any
    variable**: when `compile` answers *done* — whatever meta blocks the source contains, nested, defining constants,
    printing — the data stack is exactly the one it was given, every variable that existed has its value, the code that
    existed is still there, the context and the saved contexts are the ones before. -/
theorem compiling_changes_neither_stack_nor_variables (fuel : Nat) (toks : List Tok) (s s' : Sess) (idle : Idle s)
    (h : s.buildSource fuel .compile toks = .done s') :
    s'.m.ds = s.m.ds ∧ s'.m.heap.take s.m.heap.length = s.m.heap ∧ s'.m.code.take s.m.code.length = s.m.code ∧
    s'.m.ctx = s.m.ctx ∧ s'.nested = s.nested := by
  obtain ⟨h1, _, _, h4, h5, h6⟩ := source_never_changes_what_was_there_partial fuel toks s s' idle h
  exact ⟨compile_is_quiet fuel toks s s' idle h, h1, h4, h5, h6⟩

/-! ### a meta block as a whole: `#(` … `#)` is equivalent to its results written as literals

A block opened in a context that is not itself a meta block (top level, inside builders, inside definitions,
inside conditionals and loops). `Ext .metaEval s0 s` (Proofs/SessionUnwind.lean) says that `s` still contains
everything `s0` had: `s0`'s code is a prefix of the code, every variable of `s0` has its value, the data /
return / loop / builder stacks of `s0` lie untouched underneath, the pending flows and saved contexts of `s0`
are still there, replaced constants can be restored. -/

/-- `#(`: the session just inside the block is an extension of the session at the `#(` -/
theorem meta_block_opens {s0 : Sess} (i : Idle s0) (h0 : s0.m.ctx.mode ≠ .metaEval) :
    Ext .metaEval s0 (s0.contextOpen .metaEval) := ext_open_block i h0

/-- every step the token loop takes inside the block — compiling a literal or a local, any immediate or ordinary
    word through the flow-stack compiler, a definition, `late`, `const`, opening a nested block, closing a
    *nested* block, and the run that follows each of them — keeps the session an extension of the session at
    the `#(`, or fails in a state that still is one (so that C10's unwinding restores it) -/
theorem meta_block_steps {s0 s : Sess} (h : Ext .metaEval s0 s) (fuel : Nat) :
    (∀ op, SOK .metaEval s0 (andRun fuel (.ok (s.emit op)))) ∧
    (∀ w, SOK .metaEval s0 (andRun fuel (s.ofC (immediate s.toC w)))) ∧
    (∀ w, SOK .metaEval s0 (andRun fuel (s.ofC (buildWord s.toC w)))) ∧
    (∀ w n, SOK .metaEval s0 (andRun fuel (s.ofC (withName s.toC w n)))) ∧
    (∀ n t, SOK .metaEval s0 (andRun fuel (s.ofC (late s.toC n t)))) ∧
    (∀ n, SOK .metaEval s0 (andRun fuel (s.constDef n))) ∧
    SOK .metaEval s0 (andRun fuel (.ok (s.contextOpen .metaEval))) ∧
    (s.nested.length ≠ s0.nested.length + 1 → SOK .metaEval s0 (andRun fuel (s.nestedEnd fuel))) := by
  obtain ⟨hp, ho⟩ := pre_toC h
  exact ⟨fun op => sok_andRun fuel (.ok _) (ext_emit op h),
    fun w => sok_andRun fuel _ (sok_ofC h _ (cact_good _ _ (.imm w) hp ho)),
    fun w => sok_andRun fuel _ (sok_ofC h _ (cact_good _ _ (.word w) hp ho)),
    fun w n => sok_andRun fuel _ (sok_ofC h _ (cact_good _ _ (.named w n) hp ho)),
    fun n t => sok_andRun fuel _ (sok_ofC h _ (late_good _ _ _ _ hp ho)),
    fun n => sok_andRun fuel _ (sok_constDef h n),
    sok_andRun fuel (.ok _) (ext_contextOpen h),
    fun hne => sok_andRun fuel _ (sok_nestedEnd h (Or.inr hne) fuel)⟩

/-- `#)`: from any state inside the block in which the block's own context is current and nothing is open,
    closing the block gives back the session of the `#(` — context, nesting, pending flows, data stack, every
    variable, the other stacks — with the code extended by exactly one literal per result, the very opcodes the
    compiler emits for the values written as literals (`Mach.loadValueOp`), and the part of the dictionary that
    existed at the `#(` as the block left it (only `const` touches it). The block's own code, words and
    variables are gone (`meta_close_purges`). -/
theorem meta_block_closes_clean {s0 s t : Sess} (fuel : Nat) (h0 : s0.m.ctx.mode ≠ .metaEval)
    (h : Ext .metaEval s0 s) (hbase : s.nested.length = s0.nested.length + 1) (hnp : s.hasPendingFlow = false)
    (hc : s.contextClose fuel = .ok t) :
    t.m.ctx = s0.m.ctx ∧ t.nested = s0.nested ∧ t.flows = s0.flows ∧ t.m.ds = s0.m.ds ∧
    t.m.heap.take s0.m.heap.length = s0.m.heap ∧ hidOf t.m.rs s0.m.rs.length = s0.m.rs ∧
    hidOf t.m.loops s0.m.loops.length = s0.m.loops ∧ hidOf t.m.special s0.m.special.length = s0.m.special ∧
    (∃ vs : List Cell, t.m.code = s0.m.code ++ vs.map Mach.loadValueOp) ∧
    hidOf t.m.dict s0.m.dict.length = hidOf s.m.dict s0.m.dict.length :=
  block_close fuel h0 h hbase hnp hc

/-- **`P[#( e #)]` behaves like `P[values of e]`.**  Any session `s` outside a meta block in which a source can be read
    (`Idle`), recording off, no instruction limit; at token position `i` a word `w` that means the core word `#(` and is
    not shadowed by a local; following the block (`untilClosed`: until the saved contexts are as deep as at the `#(`
    again) it closes with `rest` unread in session `t`, and the block is `Clean` (no constant defined, no variable
    declared, return / loop / builder stacks as found).  Then there are values `vs` with
    `t.code = s.code ++ literals of vs` such that, wherever the literals sit in their source (`j`), reading
    `#( … #) rest` from `s` and reading `vs rest` from `s` give the same kind of answer with the same error and
    sessions that are `Alike` (`AlikeR`: ok/ok, err/err with the same error, …): equal in code, stacks, variables, dictionary, pending flows and contexts, having
    printed the same text after what the block itself printed. -/
theorem meta_block_is_its_values (fuel depth : Nat) (s : Sess) (idle : Idle s) (h0 : s.m.ctx.mode ≠ .metaEval)
    (hlog : s.m.log = none) (hlim : s.m.insnLimit = none)
    (w : String) (rest0 : List Tok) (i : Nat)
    (hloc : ((CState.topFun ({ s with lastTok := i } : Sess).visible).bind fun ff => CState.rposition w ff.locals) = none)
    (hw : s.m.dict.lookup w = some (.native true "#("))
    (n : Nat) (rest : List Tok) (i' : Nat) (t : Sess)
    (hblk : untilClosed fuel s.nested.length n rest0 (i + 1) (({ s with lastTok := i } : Sess).contextOpen .metaEval) = .closed rest i' t)
    (clean : Clean s t) :
    ∃ vs : List Cell, t.m.code = s.m.code ++ vs.map Mach.loadValueOp ∧
      ∀ j, AlikeR t.m.out s.m.out (tokens fuel depth (.word w :: rest0) i s) (tokens fuel depth (vs.map Tok.lit ++ rest) j s) := by
  obtain ⟨vs, hc, hall⟩ := block_inlines fuel depth s idle h0 hlog hlim w rest0 i hloc hw n rest i' t hblk clean
  exact ⟨vs, hc, fun j => (hall j).spec⟩

/-- the hypotheses are satisfiable: with `#(` and `#)` in the dictionary, the block `#( 7 #)` read from the empty session
    gets closed, and it is clean -/
example :
    let s : Sess := { m := { dict := [("#(", .native true "#("), ("#)", .native true "#)")] } }
    ∃ rest i' t, untilClosed 5 s.nested.length 3 [.lit (.int 7), .word "#)"] 1 (({ s with lastTok := 0 } : Sess).contextOpen .metaEval) =
        .closed rest i' t ∧ Clean s t ∧ t.m.code = s.m.code ++ [Mach.loadValueOp (.int 7)] :=
  ⟨_, _, _, rfl, ⟨rfl, rfl, rfl, rfl, rfl, rfl⟩, rfl⟩

/-- **`eval src` is `compile src` followed by `run`.** For every interpreter at rest (in eval mode, no program in
    flight: `AtRest`), every token list — meta blocks at any position, nested, definitions, anything — and every fuel:
    the two give the same answer (built and run to the end; rejected with the same error; failed at run time with the
    same error; the model's `unsupported` / `timeout` alike) and leave the same session: identical when the source is
    rejected or runs to its end; identical up to the bookkeeping fields of the current context (`SameC`) when the run
    fails, because `eval` then leaves the failed source's own context current (`context_close` returns early). -/
theorem eval_is_compile_then_run (fuel : Nat) (toks : List Tok) (s : Sess) (idle : Idle s) (rest : AtRest s) :
    EvalR (s.buildSource fuel .eval toks) (compileThenRun fuel toks s) :=
  eval_eq_compile_run fuel toks s idle rest

/-- the empty session is at rest -/
example : AtRest ({} : Sess) := ⟨rfl, rfl, rfl, rfl, rfl⟩

/-- the hypotheses are satisfiable: the empty session is idle -/
example : Idle ({} : Sess) := ⟨⟨Nat.le_refl _, Nat.le_refl _, Nat.le_refl _, Nat.le_refl _⟩, Nat.le_refl _, rfl⟩

end Xeh.C11
