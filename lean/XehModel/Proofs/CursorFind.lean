/- `findGo` returns the first byte index at which the pattern occurs. -/
import XehModel.Model.Cursor

namespace Xeh.Cur
open Xeh

def occursAt (pat rest : List Bool) (k : Nat) : Prop := pat.isPrefixOf (rest.drop (8 * k)) = true

instance (pat rest : List Bool) (k : Nat) : Decidable (occursAt pat rest k) := by
  unfold occursAt; infer_instance

theorem findGo_eq (pat : List Bool) (f : Nat) (rest : List Bool) (i : Nat) :
    findGo pat f rest i =
      if pat.isPrefixOf rest then some i else
        match f with
        | 0 => none
        | f + 1 => findGo pat f (rest.drop 8) (i + 1) := by
  cases f <;> rfl

theorem occursAt_zero {pat rest : List Bool} : occursAt pat rest 0 ↔ pat.isPrefixOf rest = true := by
  simp [occursAt]

theorem occursAt_succ {pat rest : List Bool} {k : Nat} : occursAt pat rest (k + 1) ↔ occursAt pat (rest.drop 8) k := by
  simp [occursAt, List.drop_drop, Nat.mul_add, Nat.add_comm]

theorem findGo_some (pat : List Bool) : ∀ (f : Nat) (rest : List Bool) (i j : Nat),
    findGo pat f rest i = some j →
    ∃ d, j = i + d ∧ d ≤ f ∧ occursAt pat rest d ∧ ∀ k, k < d → ¬ occursAt pat rest k := by
  intro f rest i j h
  rw [findGo_eq] at h
  split at h
  · rename_i hp
    cases h
    exact ⟨0, rfl, Nat.zero_le _, occursAt_zero.mpr hp, fun k hk => absurd hk (Nat.not_lt_zero k)⟩
  · rename_i hp
    match f, h with
    | f + 1, h =>
      obtain ⟨d, rfl, hd, hocc, hmin⟩ := findGo_some pat f _ _ _ h
      refine ⟨d + 1, by omega, by omega, occursAt_succ.mpr hocc, fun k hk => ?_⟩
      cases k with
      | zero => exact mt occursAt_zero.mp hp
      | succ k => exact mt occursAt_succ.mp (hmin k (by omega))

theorem findGo_none (pat : List Bool) : ∀ (f : Nat) (rest : List Bool) (i : Nat),
    findGo pat f rest i = none → ∀ k, k ≤ f → ¬ occursAt pat rest k := by
  intro f rest i h k hk
  rw [findGo_eq] at h
  split at h
  · exact nomatch h
  · rename_i hp
    cases k with
    | zero => exact mt occursAt_zero.mp hp
    | succ k =>
      match f, h, hk with
      | f + 1, h, hk => exact mt occursAt_succ.mp (findGo_none pat f _ _ h k (by omega))

end Xeh.Cur
