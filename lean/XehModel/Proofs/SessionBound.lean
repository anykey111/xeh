/-
C14 for one source (histories: Props/C14.lean), stack and heap limits: whatever a source does — compile (and allocate variables),
run meta blocks while it is read, be rejected and unwound, run, fail — the limits are untouched, the data stack holds at
most `max S (cells before)` cells and the heap at most `max H (cells before)`.  No well-formedness hypothesis.
-/
import XehModel.Proofs.SessionPre
import XehModel.Proofs.VMBound

namespace Xeh.Session
open Xeh Xeh.Mach Xeh.Compile Xeh.Session.Sess

/-- relative to the machine `a` a source was submitted to -/
def SB (a m : Mach) : Prop :=
  m.stackLimit = a.stackLimit ∧ m.heapLimit = a.heapLimit ∧
  (∀ S, a.stackLimit = some S → m.ds.length ≤ max S a.ds.length) ∧
  (∀ H, a.heapLimit = some H → m.heap.length ≤ max H a.heap.length)

theorem SB.refl (a : Mach) : SB a a := ⟨rfl, rfl, fun _ _ => by omega, fun _ _ => by omega⟩

theorem SB.trans {a b c : Mach} (h1 : SB a b) (h2 : SB b c) : SB a c :=
  ⟨h2.1.trans h1.1, h2.2.1.trans h1.2.1,
    fun S hS => by
      have x := h1.2.2.1 S hS
      have y := h2.2.2.1 S (by rw [h1.1]; exact hS)
      omega,
    fun H hH => by
      have x := h1.2.2.2 H hH
      have y := h2.2.2.2 H (by rw [h1.2.1]; exact hH)
      omega⟩

theorem SB.ofBnd {a b : Mach} (h : Bnd a b) : SB a b :=
  ⟨h.1, h.2.1, h.2.2.2.1, fun H _ => by rw [h.2.2.1]; omega⟩

/-- the heap grows to the compiler's count, which respects the limit -/
theorem sb_fromC (s : Sess) (c : CState) (h : HL s.toC c) : SB s.m (s.fromC c).m := by
  obtain ⟨h1, h2, h3, _, _⟩ := h
  refine ⟨rfl, rfl, fun S _ => by show s.m.ds.length ≤ _; omega, fun H hH => ?_⟩
  have := h3 H hH
  simp only [Sess.toC] at this h2
  simp only [Sess.fromC, List.length_append, List.length_replicate]
  omega

theorem sb_pre : MachPre SB where
  trans := SB.trans
  frame := fun _ _ e3 e4 _ _ => ⟨e3, e4, fun _ _ => by omega, fun _ _ => by omega⟩
  run := fun fuel m r h => SB.ofBnd (run_bnd nativeProg fuel m r h)
  popData := fun m => SB.ofBnd (popData_bnd m)
  fromC := sb_fromC

theorem buildSource_bound (fuel : Nat) (mode : Mode) (toks : List Tok) (s : Sess) :
    (s.buildSource fuel mode toks).All (SB s.m ·.m) (SB s.m ·.m) :=
  sb_pre.buildSource fuel mode toks s

end Xeh.Session
