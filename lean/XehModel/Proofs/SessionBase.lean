/-
`eval` and `compile` read a source the same way.  `build_from_source` opens a context of the requested mode; the two
contexts differ in the mode (`eval` / `compile`, neither a meta block) and in the data-stack floor, and nothing looks at
either while the source is read: code runs only inside meta blocks, which have contexts of their own.
`RB`: two sessions that are the same except for that one context, current or saved.  Every token-loop step keeps them so.
-/
import XehModel.Proofs.SessionLoop

namespace Xeh.Session
open Xeh Xeh.Mach Xeh.Compile Xeh.Session.Sess

/-- the other base context: `c'`, with the flow-stack floor of `c` (the one field of it the reader of a source looks at) -/
def swp (c' c : Ctx) : Ctx := { c' with fsLen := c.fsLen }

/-- `k`: the number of contexts below the base context -/
inductive RB (c' : Ctx) (k : Nat) : Sess → Sess → Prop
  | cur (s : Sess) (h1 : s.nested.length = k) (h2 : s.m.ctx.mode ≠ .metaEval) :
      RB c' k s { s with m := { s.m with ctx := swp c' s.m.ctx } }
  | nest (s : Sess) (pre : List Ctx) (E : Ctx) (bot : List Ctx) (h1 : s.nested = pre ++ E :: bot) (h2 : bot.length = k)
      (h3 : E.mode ≠ .metaEval) : RB c' k s { s with nested := pre ++ swp c' E :: bot }

/-- related answers: after a failure the two sessions may also have become the same -/
abbrev GRB (c' : Ctx) (k : Nat) : SRes → SRes → Prop := SRes.Rel (RB c' k) (fun s t => RB c' k s t ∨ s = t)

variable {c' : Ctx} {k : Nat}

theorem RB.reads {s t : Sess} (h : RB c' k s t) (hmd : c'.mode ≠ .metaEval) : Reads s t := by
  cases h with
  | cur h1 h2 =>
    refine ⟨rfl, rfl, rfl, rfl, ?_⟩
    show (s.m.ctx.mode == Mode.metaEval) = (c'.mode == Mode.metaEval)
    rw [beq_eq_false_iff_ne.mpr h2, beq_eq_false_iff_ne.mpr hmd]
  | nest pre E bot h1 h2 h3 => exact ⟨rfl, rfl, rfl, by simp [h1], rfl⟩

theorem RB.toC {s t : Sess} (h : RB c' k s t) (hmd : c'.mode ≠ .metaEval) : s.toC = t.toC := by
  cases h with
  | cur h1 h2 =>
    show s.toC = { s.toC with inMeta := c'.mode == Mode.metaEval }
    rw [beq_eq_false_iff_ne.mpr hmd, ← beq_eq_false_iff_ne.mpr h2]
    rfl
  | nest pre E bot h1 h2 h3 => rfl

theorem rb_fromC {s t : Sess} (h : RB c' k s t) (c : CState) : RB c' k (s.fromC c) (t.fromC c) := by
  cases h with
  | cur h1 h2 => exact RB.cur (s.fromC c) h1 h2
  | nest pre E bot h1 h2 h3 => exact RB.nest (s.fromC c) pre E bot h1 h2 h3

theorem rb_setTok {s t : Sess} (h : RB c' k s t) (i : Nat) : RB c' k { s with lastTok := i } { t with lastTok := i } := by
  cases h with
  | cur h1 h2 => exact RB.cur { s with lastTok := i } h1 h2
  | nest pre E bot h1 h2 h3 => exact RB.nest { s with lastTok := i } pre E bot h1 h2 h3

theorem rb_ofC {s t : Sess} (h : RB c' k s t) (r : CRes CState) : GRB c' k (s.ofC r) (t.ofC r) := by
  cases r with
  | ok c => exact rb_fromC h c
  | err e c => exact ⟨rfl, .inl (rb_setTok (rb_fromC h c) _)⟩
  | unsupported u => exact rfl

theorem rb_emit {s t : Sess} (h : RB c' k s t) (op : Op) : RB c' k (s.emit op) (t.emit op) := by
  cases h with
  | cur h1 h2 => exact RB.cur (s.emit op) h1 h2
  | nest pre E bot h1 h2 h3 => exact RB.nest (s.emit op) pre E bot h1 h2 h3

theorem rb_openMeta {s t : Sess} (h : RB c' k s t) (hmd : c'.mode ≠ .metaEval) :
    RB c' k (s.contextOpen .metaEval) (t.contextOpen .metaEval) := by
  cases h with
  | cur h1 h2 =>
    have e : ({ s with m := { s.m with ctx := swp c' s.m.ctx } } : Sess).contextOpen .metaEval =
        { (s.contextOpen .metaEval) with nested := [] ++ swp c' s.m.ctx :: s.nested } := by
      simp only [Sess.contextOpen, swp, List.nil_append]
      have a1 : (c'.mode = Mode.metaEval) = False := by simp [hmd]
      have a2 : (s.m.ctx.mode = Mode.metaEval) = False := by simp [h2]
      simp only [a1, a2, if_false]
    rw [e]
    exact RB.nest (s.contextOpen .metaEval) [] s.m.ctx s.nested rfl h1 h2
  | nest pre E bot h1 h2 h3 =>
    have e : ({ s with nested := pre ++ swp c' E :: bot } : Sess).contextOpen .metaEval =
        { (s.contextOpen .metaEval) with nested := (s.m.ctx :: pre) ++ swp c' E :: bot } := by
      simp [Sess.contextOpen]
    rw [e]
    exact RB.nest (s.contextOpen .metaEval) (s.m.ctx :: pre) E bot (by simp [Sess.contextOpen, h1]) h2 h3

/-- a run does not look at the saved contexts: it answers alike whatever they are, and leaves them alone -/
theorem runS_nested (s : Sess) (n : List Ctx) (fuel : Nat) :
    SRes.Rel (fun x y => x.nested = s.nested ∧ y = { x with nested := n }) (fun x y => x.nested = s.nested ∧ y = { x with nested := n })
      (s.runS fuel) (({ s with nested := n } : Sess).runS fuel) :=
  runS_rel s _ fuel Iff.rfl fun o a o' b e1 e2 => by
    cases e1.symm.trans e2
    exact ⟨rfl, ⟨rfl, rfl⟩, ⟨rfl, rfl⟩⟩

theorem rb_runS_nest {s : Sess} {pre : List Ctx} {E : Ctx} {bot : List Ctx} (h1 : s.nested = pre ++ E :: bot)
    (h2 : bot.length = k) (h3 : E.mode ≠ .metaEval) (fuel : Nat) :
    GRB c' k (s.runS fuel) (({ s with nested := pre ++ swp c' E :: bot } : Sess).runS fuel) :=
  (runS_nested s _ fuel).mono (fun x _ ⟨hx, hy⟩ => hy ▸ RB.nest x pre E bot (hx.trans h1) h2 h3)
    (fun x _ ⟨hx, hy⟩ => hy ▸ .inl (RB.nest x pre E bot (hx.trans h1) h2 h3))

theorem rb_metaRun {s t : Sess} (h : RB c' k s t) (hmd : c'.mode ≠ .metaEval) (fuel : Nat) :
    GRB c' k (s.metaRun fuel) (t.metaRun fuel) := by
  cases h with
  | cur h1 h2 =>
    rw [metaRun_noop s fuel h2, metaRun_noop _ fuel (show (swp c' s.m.ctx).mode ≠ .metaEval from hmd)]
    exact RB.cur s h1 h2
  | nest pre E bot h1 h2 h3 =>
    exact metaRun_rel ((RB.nest s pre E bot h1 h2 h3).reads hmd) fuel (RB.nest s pre E bot h1 h2 h3) (rb_runS_nest h1 h2 h3 fuel)

/-- `#)` closing a block: the base context comes back as the current one, or stays where it is below the others -/
theorem rb_contextClose {s t : Sess} (h : RB c' k s t) (hmd : c'.mode ≠ .metaEval) (hmeta : s.m.ctx.mode = .metaEval) (fuel : Nat) :
    GRB c' k (s.contextClose fuel) (t.contextClose fuel) := by
  cases h with
  | cur h1 h2 => exact (h2 hmeta).elim
  | nest pre E bot h1 h2 h3 =>
    cases pre with
    | nil =>
      rw [contextClose_meta s E bot fuel h1 hmeta,
        contextClose_meta { s with nested := [] ++ swp c' E :: bot } (swp c' E) bot fuel rfl hmeta]
      -- the run is the same on both sides; afterwards `E` / its twin becomes the current context
      have hrun := runS_all (P := fun x => x.nested = bot) (E := fun _ => True) (N := fun _ => True) { s with nested := bot } fuel
        (fun _ _ => rfl) (fun _ _ _ => trivial) (fun _ _ _ _ => trivial)
      cases hr : Sess.runS fuel { s with nested := bot } with
      | ok s1 =>
        rw [hr] at hrun
        have e : s1.closed (swp c' E) = { (s1.closed E) with m := { (s1.closed E).m with ctx := swp c' (s1.closed E).m.ctx } } := by
          simp only [Sess.closed, bne_iff_ne.mpr h3, bne_iff_ne.mpr (show (swp c' E).mode ≠ .metaEval from hmd), Bool.true_or, if_true]
        show RB c' k (s1.closed E) (s1.closed (swp c' E))
        rw [e]
        exact RB.cur (s1.closed E) (hrun ▸ h2) h3
      | err e s1 => exact ⟨rfl, .inr rfl⟩
      | panic p s1 => exact ⟨rfl, .inr rfl⟩
      | unsupported u => exact rfl
      | timeout => trivial
    | cons p pre' =>
      rw [contextClose_meta s p (pre' ++ E :: bot) fuel (by simpa using h1) hmeta,
        contextClose_meta { s with nested := p :: pre' ++ swp c' E :: bot } p (pre' ++ swp c' E :: bot) fuel (by simp) hmeta]
      exact ((runS_nested { s with nested := pre' ++ E :: bot } (pre' ++ swp c' E :: bot) fuel).mono (fun _ _ h => h)
        (fun x _ ⟨hx, hy⟩ => hy ▸ .inl (RB.nest x pre' E bot hx h2 h3))).bind
        (fun x _ ⟨hx, hy⟩ => hy ▸ RB.nest (x.closed p) pre' E bot hx h2 h3)

theorem rb_nestedEnd {s t : Sess} (h : RB c' k s t) (hmd : c'.mode ≠ .metaEval) (fuel : Nat) :
    GRB c' k (s.nestedEnd fuel) (t.nestedEnd fuel) :=
  nestedEnd_rel (h.reads hmd) fuel (.inl h) fun hmeta => rb_contextClose h hmd hmeta fuel

/-- outside a meta block `const` fails; inside, the machine is the same on both sides and `const` does not look at the
    saved contexts -/
theorem rb_constDef {s t : Sess} (h : RB c' k s t) (hmd : c'.mode ≠ .metaEval) (name : String) :
    GRB c' k (s.constDef name) (t.constDef name) := by
  cases h with
  | cur h1 h2 => exact constDef_rel name (iff_of_false h2 hmd) rfl (.inl (RB.cur s h1 h2)) fun hm => (h2 hm).elim
  | nest pre E bot h1 h2 h3 =>
    exact constDef_rel name Iff.rfl rfl (.inl (RB.nest s pre E bot h1 h2 h3)) fun _ =>
      ⟨rfl, rfl, .inl (RB.nest _ pre E bot h1 h2 h3), fun _ _ => RB.nest _ pre E bot h1 h2 h3⟩

theorem rb_act {s t : Sess} (h : RB c' k s t) (hmd : c'.mode ≠ .metaEval) (fuel : Nat) (kd : Kind) :
    GRB c' k (act fuel s kd) (act fuel t kd) := by
  have e := h.toC hmd
  cases kd with
  | emit op => exact rb_emit h op
  | openMeta => exact rb_openMeta h hmd
  | closeMeta => exact rb_nestedEnd h hmd fuel
  | const name => exact rb_constDef h hmd name
  | noName => exact ⟨rfl, .inl h⟩
  | late _ | named _ _ | imm _ | word _ =>
    show GRB c' k (s.ofC (cact s.toC _)) (t.ofC (cact t.toC _)); rw [← e]; exact rb_ofC h _

theorem rb_tokens (hmd : c'.mode ≠ .metaEval) (fuel depth : Nat) (toks : List Tok) (idx : Nat) (s t : Sess) (h : RB c' k s t) :
    GRB c' k (tokens fuel depth toks idx s) (tokens fuel depth toks idx t) :=
  tokens_rel fuel depth Eq (fun _ _ e => by rw [e]) (fun _ _ h => h.reads hmd) (fun kd _ _ h => rb_act h hmd fuel kd)
    (fun _ _ h => rb_metaRun h hmd fuel) (fun i _ _ _ e h => e ▸ rb_setTok h i) (fun _ _ h => .inl h) toks idx idx s t rfl h

theorem rb_build1 {s t : Sess} (h : RB c' k s t) (hmd : c'.mode ≠ .metaEval) (fuel : Nat) (toks : List Tok) :
    GRB c' k (s.build1 fuel toks) (t.build1 fuel toks) := by
  unfold Sess.build1
  rw [← (h.reads hmd).depth]
  exact (rb_metaRun h hmd fuel).bind (fun s1 t1 h1 => rb_tokens hmd fuel _ toks 0 s1 t1 h1)

theorem RB.inv {s t : Sess} (h : RB c' k s t) :
    (s.nested.length = k ∧ s.m.ctx.mode ≠ .metaEval ∧ t = { s with m := { s.m with ctx := swp c' s.m.ctx } }) ∨
    (∃ pre E bot, s.nested = pre ++ E :: bot ∧ bot.length = k ∧ E.mode ≠ .metaEval ∧ t = { s with nested := pre ++ swp c' E :: bot }) := by
  cases h with
  | cur h1 h2 => exact .inl ⟨h1, h2, rfl⟩
  | nest pre E bot h1 h2 h3 => exact .inr ⟨pre, E, bot, h1, h2, h3, rfl⟩

theorem unwind_rb {mark s t : Sess} (h : RB c' k s t) (hk : mark.nested.length < k) : unwind mark s = unwind mark t := by
  cases h with
  | cur h1 h2 => rfl
  | nest pre E bot h1 h2 h3 =>
    have d : ∀ x : Ctx, (pre ++ x :: bot).drop ((pre ++ x :: bot).length - mark.nested.length) =
        bot.drop (bot.length - mark.nested.length) := fun x => by
      rw [show pre ++ x :: bot = (pre ++ [x]) ++ bot by simp,
        show ((pre ++ [x]) ++ bot).length - mark.nested.length = (pre ++ [x]).length + (bot.length - mark.nested.length) by
          simp only [List.length_append, List.length_cons, List.length_nil]; omega,
        ← List.drop_drop, List.drop_left]
    simp only [Sess.unwind, h1, d]

end Xeh.Session
