/- One walk over the arithmetic words for two properties: C09's no panic / type-error payload (`Good`) and C13's
   untagged result; `Quotes` carries both along the definition of a word. -/
import XehModel.Proofs.ProgLemmas
import XehModel.Model.Arith
namespace Xeh
open Prog

/-- the outcome is never a panic, and a type error quotes one of the cells `ops` (the cell itself or its untagged
    value) -/
def Good (o : Outcome (List Cell)) (ops : List Cell) : Prop :=
  (∀ site, o ≠ .panic site) ∧
  (∀ v m, o = .err (.typeErrorMsg v m) → ∃ c ∈ ops, v = c ∨ v = c.value)

theorem Good.mono {o : Outcome (List Cell)} {ops ops' : List Cell} (h : ops ⊆ ops') (g : Good o ops) : Good o ops' :=
  ⟨g.1, fun v m e => let ⟨c, hc, hv⟩ := g.2 v m e; ⟨c, h hc, hv⟩⟩

theorem Good.err_self {ops : List Cell} {c : Cell} (h : c ∈ ops) (m : String) : Good (.err (.typeErrorMsg c m)) ops :=
  ⟨fun _ => nofun, fun _ _ e => ⟨c, h, .inl (Xerr.typeErrorMsg.inj (Outcome.err.inj e)).1.symm⟩⟩

theorem Good.err_value {ops : List Cell} {c : Cell} (h : c ∈ ops) (m : String) :
    Good (.err (.typeErrorMsg c.value m)) ops :=
  ⟨fun _ => nofun, fun _ _ e => ⟨c, h, .inr (Xerr.typeErrorMsg.inj (Outcome.err.inj e)).1.symm⟩⟩

/-- on any stack `s` and hidden prefix `h`: no panic, and a type error quotes one of `ops` (the cells popped so far) or of
    the top `n` cells of `s` (a bound on what is still popped: 2 for every word, unary ones included); on success the new
    top cell is untagged, unless `d` holds, which lets the program stop with the stack as it is -/
def Quotes (d : Prop) (n : Nat) (ops : List Cell) (p : Prog) : Prop :=
  ∀ h s, Good (p.runStack h s) (ops ++ s.take n) ∧
    (d ∨ ∀ r, p.runStack h s = .ok r → ∃ c rest, r = c :: rest ∧ c.tags = none)

namespace Quotes
variable {d : Prop} {n : Nat} {ops : List Cell}

theorem fail {e : Xerr} (h : Good (.err e) ops) : Quotes d n ops (.fail e) := fun _ _ =>
  ⟨h.mono (List.subset_append_left _ _), .inr fun _ => nofun⟩

theorem raise {e : Xerr} (h : ∀ v m, e ≠ .typeErrorMsg v m) : Quotes d n ops (.fail e) :=
  fail ⟨fun _ => nofun, fun v m he => absurd (Outcome.err.inj he) (h v m)⟩

theorem underflow : Quotes d n ops (.fail .stackUnderflow) := raise nofun

theorem done (hd : d) : Quotes d n ops .done := fun _ _ => ⟨⟨fun _ => nofun, fun _ _ => nofun⟩, .inl hd⟩

theorem push_done {c : Cell} (hc : c.tags = none) : Quotes d n ops (.push c .done) := fun _ s =>
  ⟨⟨fun _ => nofun, fun _ _ => nofun⟩, .inr fun _ hr => ⟨c, s, (Outcome.ok.inj hr).symm, hc⟩⟩

theorem pop {k : Cell → Prog} (h : ∀ c, Quotes d n (c :: ops) (k c)) : Quotes d (n + 1) ops (.pop k)
  | h', [] => underflow h' []
  | h', c :: s => by
    rw [runStack]; split
    · exact ⟨(h c h' s).1.mono (by simp), (h c h' s).2⟩
    · exact underflow h' (c :: s)

theorem top {k : Cell → Prog} (h : ∀ c, Quotes d n ops (k c)) : Quotes d n ops (.top k)
  | h', [] => underflow h' []
  | h', c :: s => by
    rw [runStack]; split
    · exact h c h' (c :: s)
    · exact underflow h' (c :: s)

theorem toXint {a : Cell} {k : Int → Prog} (ha : a ∈ ops) (h : ∀ i, Quotes d n ops (k i)) :
    Quotes d n ops (ofOutcome a.toXint k) := by
  unfold Cell.toXint; split
  · exact h _
  · exact fail (.err_value ha _)

theorem toReal {a : Cell} {k : UInt64 → Prog} (ha : a ∈ ops) (h : ∀ r, Quotes d n ops (k r)) :
    Quotes d n ops (ofOutcome a.toReal k) := by
  unfold Cell.toReal; split
  · exact h _
  · exact fail (.err_value ha _)

theorem toBool {a : Cell} {k : Bool → Prog} (ha : a ∈ ops) (h : ∀ b, Quotes d n ops (k b)) :
    Quotes d n ops (ofOutcome a.toBool k) := by
  unfold Cell.toBool; split
  · exact h _
  · exact fail (.err_self ha _)

theorem ite {c : Prop} [Decidable c] {p q : Prog} (hp : Quotes d n ops p) (hq : Quotes d n ops q) :
    Quotes d n ops (if c then p else q) := by
  split
  · exact hp
  · exact hq

theorem numMatch {b : Cell} {p : Int → Prog} {p' : UInt64 → Prog} (hb : b ∈ ops) (hi : ∀ i, Quotes d n ops (p i))
    (hr : ∀ r, Quotes d n ops (p' r)) :
    Quotes d n ops (match b.value with | .int i => p i | .real r => p' r | _ => .fail (numErr b)) := by
  split
  · exact hi _
  · exact hr _
  · exact fail (.err_self hb _)

end Quotes
theorem good_arithOpsReal (fi fr) : Quotes d 2 [] (arithOpsReal fi fr) :=
  Quotes.pop fun _ => Quotes.pop fun _ => Quotes.numMatch (List.mem_cons_of_mem _ List.mem_cons_self)
    (fun _ => Quotes.toXint List.mem_cons_self fun _ => Quotes.push_done rfl)
    (fun _ => Quotes.toReal List.mem_cons_self fun _ => Quotes.push_done rfl)

theorem good_arithOpsInt (fi) : Quotes d 2 [] (arithOpsInt fi) :=
  Quotes.pop fun _ => Quotes.toXint List.mem_cons_self fun _ =>
  Quotes.pop fun _ => Quotes.toXint List.mem_cons_self fun _ => Quotes.push_done rfl

theorem good_wordDiv : Quotes d 2 [] wordDiv :=
  Quotes.pop fun _ => Quotes.pop fun _ => Quotes.numMatch (List.mem_cons_of_mem _ List.mem_cons_self)
    (fun _ => Quotes.toXint List.mem_cons_self fun _ =>
      Quotes.ite (Quotes.raise nofun) (Quotes.ite (Quotes.push_done rfl) (Quotes.raise nofun)))
    (fun _ => Quotes.toReal List.mem_cons_self fun _ => Quotes.ite (Quotes.raise nofun) (Quotes.push_done rfl))

theorem good_wordRem : Quotes d 2 [] wordRem :=
  Quotes.pop fun _ => Quotes.pop fun _ => Quotes.numMatch (List.mem_cons_of_mem _ List.mem_cons_self)
    (fun _ => Quotes.toXint List.mem_cons_self fun _ => Quotes.ite (Quotes.raise nofun) (Quotes.push_done rfl))
    (fun _ => Quotes.toReal List.mem_cons_self fun _ => Quotes.push_done rfl)

theorem good_wordCmp (t) : Quotes d 2 [] (wordCmp t) :=
  Quotes.pop fun _ => Quotes.pop fun _ => Quotes.numMatch (List.mem_cons_of_mem _ List.mem_cons_self)
    (fun _ => Quotes.toXint List.mem_cons_self fun _ => Quotes.push_done rfl)
    (fun _ => Quotes.toReal List.mem_cons_self fun _ => Quotes.push_done rfl)

theorem good_wordLogic (f) : Quotes d 2 [] (wordLogic f) :=
  Quotes.pop fun _ => Quotes.pop fun _ => Quotes.toBool List.mem_cons_self fun _ =>
  Quotes.toBool (List.mem_cons_of_mem _ List.mem_cons_self) fun _ => Quotes.push_done rfl

theorem good_wordNeg : Quotes d 2 [] wordNeg :=
  Quotes.pop fun _ => Quotes.numMatch List.mem_cons_self
    (fun _ => Quotes.ite (Quotes.push_done rfl) (Quotes.raise nofun)) fun _ => Quotes.push_done rfl

theorem good_wordAbs : Quotes d 2 [] wordAbs :=
  Quotes.pop fun _ => Quotes.numMatch List.mem_cons_self
    (fun _ => Quotes.ite (Quotes.push_done rfl) (Quotes.raise nofun)) fun _ => Quotes.push_done rfl

theorem good_wordNumTest (ti tr) : Quotes d 2 [] (wordNumTest ti tr) :=
  Quotes.pop fun _ => Quotes.numMatch List.mem_cons_self (fun _ => Quotes.push_done rfl) fun _ => Quotes.push_done rfl

theorem good_unInt (f : Int → Int) :
    Quotes d 2 [] (.pop fun a => ofOutcome a.toXint fun ai => .push (.int (f ai)) .done) :=
  Quotes.pop fun _ => Quotes.toXint List.mem_cons_self fun _ => Quotes.push_done rfl

theorem good_wordRound : Quotes d 2 [] wordRound :=
  Quotes.pop fun _ => Quotes.toReal List.mem_cons_self fun _ => Quotes.push_done rfl

theorem good_wordNot : Quotes d 2 [] wordNot :=
  Quotes.pop fun _ => Quotes.toBool List.mem_cons_self fun _ => Quotes.push_done rfl

theorem good_wordIntoReal : Quotes True 2 [] wordIntoReal := Quotes.top fun _ => by
  split
  · exact Quotes.done trivial
  · exact Quotes.pop fun _ => Quotes.toXint List.mem_cons_self fun _ => Quotes.push_done rfl

theorem good_wordIntoInt : Quotes True 2 [] wordIntoInt := Quotes.top fun _ => by
  split
  · exact Quotes.done trivial
  · exact Quotes.pop fun _ => Quotes.toReal List.mem_cons_self fun _ => Quotes.push_done rfl

end Xeh
