/-
The range operations (`seek`, `peek`, `substr`, `read`, `split_at`) test their positions once and hand out handles on a
sub-range of the receiver's buffer; such a handle denotes the corresponding slice of the receiver's bits.
-/
import XehModel.Proofs.BitstrHeap

namespace Xeh.Bitstr
open Xeh Xeh.Bits

theorem peek_eq (h : Heap) (s : Handle) (n : Nat) :
    peek h s n = if s.start + n ≤ usizeMax ∧ s.start + n ≤ s.end_
      then (h.incRc s.buf, some ⟨s.start, s.start + n, s.buf⟩) else (h, none) := by
  unfold peek checkedAdd
  by_cases h1 : s.start + n ≤ usizeMax <;> simp [h1]

theorem read_eq (h : Heap) (s : Handle) (n : Nat) :
    Bitstr.read h s n = if s.start + n ≤ usizeMax ∧ s.start + n ≤ s.end_
      then (h.incRc s.buf, ⟨s.start + n, s.end_, s.buf⟩, some ⟨s.start, s.start + n, s.buf⟩) else (h, s, none) := by
  unfold Bitstr.read checkedAdd
  by_cases h1 : s.start + n ≤ usizeMax <;> by_cases h2 : s.start + n ≤ s.end_ <;> simp [h1, h2]

theorem splitAt_eq (h : Heap) (s : Handle) (k : Nat) :
    splitAt h s k = if s.start + k ≤ usizeMax ∧ s.start + k ≤ s.end_
      then ((h.incRc s.buf).incRc s.buf, some (⟨s.start, s.start + k, s.buf⟩, ⟨s.start + k, s.end_, s.buf⟩))
      else (h, none) := by
  unfold splitAt checkedAdd
  by_cases h1 : s.start + k ≤ usizeMax <;> by_cases h2 : s.start + k ≤ s.end_ <;> simp [h1, h2]

theorem sub_handle {h : Heap} {s : Handle} (wf : WF h s) {a b i j : Nat} (ha : a = s.start + i) (hb : b = s.start + j)
    (hij : i ≤ j) (hj : b ≤ s.end_) :
    WF h ⟨a, b, s.buf⟩ ∧ bits h ⟨a, b, s.buf⟩ = slice (bits h s) i j := by
  subst ha hb
  exact ⟨WF_sub h s wf _ _ (by omega) hj, by rw [bits_eq, bits_eq, slice_slice _ _ _ _ _ hj]⟩

theorem take_handle {h : Heap} {s : Handle} (wf : WF h s) {n : Nat} (hn : s.start + n ≤ s.end_) :
    WF h ⟨s.start, s.start + n, s.buf⟩ ∧ bits h ⟨s.start, s.start + n, s.buf⟩ = (bits h s).take n :=
  sub_handle wf rfl rfl (Nat.zero_le n) hn

theorem drop_handle {h : Heap} {s : Handle} (wf : WF h s) {a n : Nat} (ha : a = s.start + n) (hn : a ≤ s.end_) :
    WF h ⟨a, s.end_, s.buf⟩ ∧ bits h ⟨a, s.end_, s.buf⟩ = (bits h s).drop n := by
  subst ha
  exact ⟨WF_sub h s wf _ _ hn (Nat.le_refl _), by rw [bits_eq, bits_eq, slice_drop]⟩

theorem incRc_handle {h : Heap} {u : Handle} {l : List Bool} (b : Nat) (w : WF h u ∧ bits h u = l) :
    WF (h.incRc b) u ∧ bits (h.incRc b) u = l :=
  ⟨WF_incRc h b u w.1, (bits_incRc h b u).trans w.2⟩

theorem end_eq (h : Heap) (s : Handle) (wf : WF h s) : s.end_ = s.start + (bits h s).length := by
  rw [bits_length h s wf]; have : s.start ≤ s.end_ := wf.view.le; omega

theorem le_length_iff {h : Heap} {s : Handle} (wf : WF h s) (n : Nat) :
    n ≤ (bits h s).length ↔ s.start + n ≤ s.end_ := by
  rw [end_eq h s wf]; omega

end Xeh.Bitstr
