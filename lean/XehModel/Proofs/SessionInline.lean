/-
A meta block and its values.  The token loop goes round by round (`step1`, Proofs/SessionLoop.lean), a block is followed
from its `#(` to the `#)` that closes it by watching the depth of the saved contexts (`untilClosed`,
`tokens_untilClosed`) — no syntactic matching of `#(` and `#)`, which are dictionary words like any other —, the
session at the end of the block is described by the block theorems (Proofs/SessionBlock.lean), and the rest of the
source is read from there and from the session that read the values as literals alike (Proofs/SessionGhostD.lean).
-/
import XehModel.Proofs.SessionBlock
import XehModel.Proofs.SessionGhostD

namespace Xeh.Session
open Xeh Xeh.Mach Xeh.Compile Xeh.Session.Sess

inductive URes where
  /-- the saved contexts are back to `base` deep -/
  | closed (rest : List Tok) (i : Nat) (t : Sess)
  | stop (r : SRes)
  /-- the tokens (or the gas `n`) ran out with the block still open -/
  | eof (toks : List Tok) (i : Nat) (s : Sess)

/-- `n`: gas, at least the number of tokens -/
def untilClosed (fuel base : Nat) : Nat → List Tok → Nat → Sess → URes
  | 0, toks, i, s => .eof toks i s
  | _ + 1, [], i, s => .eof [] i s
  | n + 1, t :: rest, i, s =>
    match step1 fuel t rest i s with
    | (.ok s', rest', i') => if s'.nested.length = base then .closed rest' i' s' else untilClosed fuel base n rest' i' s'
    | (r, _, _) => .stop r

theorem tokens_untilClosed (fuel depth base n : Nat) (toks : List Tok) (i : Nat) (s : Sess) :
    tokens fuel depth toks i s =
      match untilClosed fuel base n toks i s with
      | .closed rest i' t => tokens fuel depth rest i' t
      | .stop r => r
      | .eof toks' i' s' => tokens fuel depth toks' i' s' := by
  fun_induction untilClosed fuel base n toks i s with
  | case1 => rfl
  | case2 => rfl
  | case3 n tk rest0 i s s' rest' j hst => rw [tokens_step, hst]; rfl
  | case4 n tk rest0 i s s' rest' j hst _ ih => rw [tokens_step, hst]; exact ih
  | case5 n tk rest0 i s r rest' j hne hst =>
    rw [tokens_step, hst]
    cases r <;> first | rfl | exact (hne _ rfl).elim

theorem step1_ext {s0 s : Sess} (h : Ext .metaEval s0 s) (fuel : Nat) (t : Tok) (rest : List Tok) (idx : Nat) :
    SOK .metaEval s0 (step1 fuel t rest idx s).1 ∨
    (s.nested.length = s0.nested.length + 1 ∧
      (step1 fuel t rest idx s) = (andRun fuel (({ s with lastTok := idx } : Sess).nestedEnd fuel), rest, idx + 1)) := by
  rw [step1_eq]
  generalize classify s.visible s.m.dict t rest = k
  by_cases hk : k = .closeMeta ∧ s.nested.length = s0.nested.length + 1
  · obtain ⟨rfl, hd⟩ := hk
    exact .inr ⟨hd, rfl⟩
  · exact .inl (sok_andRun fuel _ (sok_act (ext_lastTok _ h) fuel k (fun e => .inr (fun hd => hk ⟨e, hd⟩))))

structure Closed (s0 t : Sess) : Prop where
  ctx : t.m.ctx = s0.m.ctx
  nested : t.nested = s0.nested
  flows : t.flows = s0.flows
  ds : t.m.ds = s0.m.ds
  code : ∃ vs : List Cell, t.m.code = s0.m.code ++ vs.map Mach.loadValueOp
  ext0 : Ext0 s0 t

theorem step1_in_block {s0 s s' : Sess} (h0 : s0.m.ctx.mode ≠ .metaEval) (hext : Ext .metaEval s0 s) {fuel : Nat} {tk : Tok}
    {rest0 rest' : List Tok} {i j : Nat} (hst : step1 fuel tk rest0 i s = (.ok s', rest', j)) :
    (Ext .metaEval s0 s' ∧ s'.nested.length ≠ s0.nested.length) ∨ (Closed s0 s' ∧ s'.nested.length = s0.nested.length) := by
  rcases step1_ext hext fuel tk rest0 i with hsok | ⟨hd, hst'⟩
  · rw [hst] at hsok
    exact .inl ⟨hsok, by have := (hsok : Ext .metaEval s0 s').chain.nested.2; omega⟩
  · rw [hst] at hst'
    obtain ⟨t0, hne, e⟩ := andRun_ok (congrArg Prod.fst hst').symm
    obtain ⟨hp', hc⟩ := nestedEnd_ok hne
    obtain ⟨⟨c1, c2, c3, c4, _, _, _, _, c9, _⟩, c11⟩ := block_close_full fuel h0 (ext_lastTok i hext) hd hp' hc
    rw [metaRun_noop t0 fuel (c1 ▸ h0)] at e
    cases e
    exact .inr ⟨⟨c1, c2, c3, c4, c9, c11⟩, by rw [c2]⟩

theorem block_ext {s0 : Sess} (h0 : s0.m.ctx.mode ≠ .metaEval) (fuel : Nat) {rest : List Tok} {i' : Nat} {t : Sess}
    (n : Nat) (toks : List Tok) (i : Nat) (s : Sess) (hext : Ext .metaEval s0 s)
    (h : untilClosed fuel s0.nested.length n toks i s = .closed rest i' t) : Closed s0 t := by
  fun_induction untilClosed fuel s0.nested.length n toks i s with
  | case1 => cases h
  | case2 => cases h
  | case3 n tk rest0 i s s' rest' j hst hc =>
    cases h
    rcases step1_in_block h0 hext hst with ⟨_, hne⟩ | ⟨hcl, _⟩
    · exact (hne hc).elim
    · exact hcl
  | case4 n tk rest0 i s s' rest' j hst hc ih =>
    rcases step1_in_block h0 hext hst with ⟨he, _⟩ | ⟨_, heq⟩
    · exact ih he h
    · exact (hc heq).elim
  | case5 => cases h

def emitLits : List Cell → Nat → Sess → Sess
  | [], _, s => s
  | v :: vs, j, s => emitLits vs (j + 1) (({ s with lastTok := j } : Sess).emit (Mach.loadValueOp v))

theorem emitLits_spec : ∀ (vs : List Cell) (j : Nat) (s : Sess),
    (emitLits vs j s).m = { s.m with code := s.m.code ++ vs.map Mach.loadValueOp } ∧
    (emitLits vs j s).flows = s.flows ∧ (emitLits vs j s).nested = s.nested ∧ (emitLits vs j s).constUndo = s.constUndo
  | [], j, s => ⟨by simp [emitLits], rfl, rfl, rfl⟩
  | v :: vs, j, s => by
    obtain ⟨a, b, c, d⟩ := emitLits_spec vs (j + 1) (({ s with lastTok := j } : Sess).emit (Mach.loadValueOp v))
    refine ⟨?_, b, c, d⟩
    rw [emitLits, a]
    simp [Sess.emit]

theorem tokens_lits (fuel depth : Nat) (rest : List Tok) : ∀ (vs : List Cell) (j : Nat) (s : Sess), s.m.ctx.mode ≠ .metaEval →
    tokens fuel depth (vs.map Tok.lit ++ rest) j s = tokens fuel depth rest (j + vs.length) (emitLits vs j s)
  | [], j, s, _ => rfl
  | v :: vs, j, s, hm => by
    have hmr := metaRun_noop (({ s with lastTok := j } : Sess).emit (Mach.loadValueOp v)) fuel hm
    simp only [List.map_cons, List.cons_append, tokens, andRun, hmr]
    rw [tokens_lits fuel depth rest vs (j + 1) _ (by simpa [Sess.emit] using hm)]
    simp only [emitLits, List.length_cons]
    congr 1
    omega

/-- what the block theorems cannot know: the block defined no constant, allocated no variable (by compiling a word
    that declares one), and left the return / loop / builder stacks as it found them -/
structure Clean (s t : Sess) : Prop where
  heap : t.m.heap = s.m.heap
  dict : t.m.dict = s.m.dict
  rs : t.m.rs = s.m.rs
  loops : t.m.loops = s.m.loops
  special : t.m.special = s.m.special
  constUndo : t.constUndo = s.constUndo

/-- alike up to debug map, last-token marker, meter, stop flag, and what had been printed before (`o`, `o'`) -/
def TwinR (o o' : List Char) (r r' : SRes) : Prop := ∃ rz, SRes.Rel (GD o) (GD o) r rz ∧ SRes.Rel (GD o') (GD o') r' rz

theorem closed_twin {s t : Sess} (c : Closed s t) (cl : Clean s t) (hlog : s.m.log = none) (hlim : s.m.insnLimit = none)
    (vs : List Cell) (hcode : t.m.code = s.m.code ++ vs.map Mach.loadValueOp) (j : Nat) :
    ∃ z, GD t.m.out t z ∧ GD (emitLits vs j s).m.out (emitLits vs j s) z := by
  obtain ⟨e1, e2, e3, e4⟩ := emitLits_spec vs j s
  refine ⟨{ (emitLits vs j s) with m := { (emitLits vs j s).m with out := [] } }, ?_, ?_⟩
  · obtain ⟨c1, c2, c3, c4, _, c6⟩ := c
    obtain ⟨l1, l2, l3⟩ := c6.limits
    have lg := c6.nolog hlog
    obtain ⟨d1, d2, d3, d4, d5, d6⟩ := cl
    refine ⟨?_, by simp only; rw [c3, e2], by simp only; rw [c2, e3], by simp only; rw [d6, e4], by rw [l1]; exact hlim⟩
    rw [e1]
    rcases t with ⟨⟨tc, th, td, tr, tl, tsp, tctx, tmt, til, tsl, thl, tlg, to, tst, tdi⟩, _, _, _, _, _⟩
    simp only at c1 c4 hcode l1 l2 l3 lg d1 d2 d3 d4 d5
    subst_vars
    simp [normA, normB, hlog]
  · refine ⟨?_, rfl, rfl, rfl, by rw [e1]; exact hlim⟩
    simp [normA, normB]

/-- `hloc`, `hw`: the word `w` at position `i` means `#(` (the core word, not shadowed by a local).  The two prefixes of
    `TwinR`: the sessions also differ in the text the block printed while it was evaluated. -/
theorem block_inlines (fuel depth : Nat) (s : Sess) (idle : Idle s) (h0 : s.m.ctx.mode ≠ .metaEval)
    (hlog : s.m.log = none) (hlim : s.m.insnLimit = none)
    (w : String) (rest0 : List Tok) (i : Nat)
    (hloc : ((CState.topFun ({ s with lastTok := i } : Sess).visible).bind fun ff => CState.rposition w ff.locals) = none)
    (hw : s.m.dict.lookup w = some (.native true "#("))
    (n : Nat) (rest : List Tok) (i' : Nat) (t : Sess)
    (hblk : untilClosed fuel s.nested.length n rest0 (i + 1) (({ s with lastTok := i } : Sess).contextOpen .metaEval) = .closed rest i' t)
    (clean : Clean s t) :
    ∃ vs : List Cell, t.m.code = s.m.code ++ vs.map Mach.loadValueOp ∧
      ∀ j, TwinR t.m.out s.m.out (tokens fuel depth (.word w :: rest0) i s) (tokens fuel depth (vs.map Tok.lit ++ rest) j s) := by
  have idle' : Idle ({ s with lastTok := i } : Sess) := ⟨idle.wf, idle.fs, idle.dmap⟩
  have hopen : Ext .metaEval ({ s with lastTok := i } : Sess) (({ s with lastTok := i } : Sess).contextOpen .metaEval) :=
    ext_open_block idle' h0
  have hst : step1 fuel (.word w) rest0 i s =
      (.ok (({ s with lastTok := i } : Sess).contextOpen .metaEval), rest0, i + 1) := by
    simp only [step1, hloc, hw]
    simp [andRun, metaRun_fresh]
  have hA : tokens fuel depth (.word w :: rest0) i s = tokens fuel depth rest i' t := by
    rw [tokens_step, hst]
    simp only [thenTokens]
    rw [tokens_untilClosed fuel depth s.nested.length n rest0 (i + 1), hblk]
  have hcl := block_ext (s0 := ({ s with lastTok := i } : Sess)) h0 fuel n rest0 (i + 1) _ hopen hblk
  obtain ⟨c1, c2, c3, c4, ⟨vs, c5⟩, c6⟩ := hcl
  have hcl' : Closed s t := ⟨c1, c2, c3, c4, ⟨vs, c5⟩,
    ⟨c6.code, c6.dmap, c6.dictLen, c6.undo, c6.heap, c6.ds, c6.rs, c6.loops, c6.special, c6.flows, c6.nested, c6.nolog, c6.log, c6.limits⟩⟩
  refine ⟨vs, c5, fun j => ?_⟩
  obtain ⟨z, g1, g2⟩ := closed_twin hcl' clean hlog hlim vs c5 j
  rw [hA, tokens_lits fuel depth rest vs j s h0]
  have o2 : (emitLits vs j s).m.out = s.m.out := by rw [(emitLits_spec vs j s).1]
  rw [o2] at g2
  exact ⟨tokens fuel depth rest 0 z, gd_tokens fuel depth rest i' 0 t z g1, gd_tokens fuel depth rest (j + vs.length) 0 _ z g2⟩

def Alike (o o' : List Char) (x y : Sess) : Prop :=
  ∃ d, x.m.out = o ++ d ∧ y.m.out = o' ++ d ∧
    y = { x with m := { x.m with meter := y.m.meter, out := y.m.out, aboutToStop := y.m.aboutToStop },
                 dmap := y.dmap, lastTok := y.lastTok }

theorem alike_of_gd {o o' : List Char} {x y z : Sess} (h1 : GD o x z) (h2 : GD o' y z) : Alike o o' x y := by
  obtain ⟨a1, a2⟩ := GD.spec h1
  obtain ⟨b1, b2⟩ := GD.spec h2
  refine ⟨z.m.out, a1, b1, ?_⟩
  obtain ⟨xm, _, _, _, _, _⟩ := x
  obtain ⟨ym, _, _, _, _, _⟩ := y
  obtain ⟨zm, _, _, _, _, _⟩ := z
  cases xm; cases ym; cases zm
  simp only [Sess.mk.injEq, Mach.mk.injEq] at a2 b2 ⊢
  simp_all

def AlikeR (o o' : List Char) : SRes → SRes → Prop
  | .ok x, .ok y => Alike o o' x y
  | .err e x, .err e' y => e = e' ∧ Alike o o' x y
  | .panic p x, .panic p' y => p = p' ∧ Alike o o' x y
  | .unsupported u, .unsupported u' => u = u'
  | .timeout, .timeout => True
  | _, _ => False

theorem TwinR.spec {o o' : List Char} {r r' : SRes} (h : TwinR o o' r r') : AlikeR o o' r r' := by
  obtain ⟨rz, h1, h2⟩ := h
  have := (h1.join h2).mono (fun _ _ ⟨_, a, b⟩ => alike_of_gd a b) (fun _ _ ⟨_, a, b⟩ => alike_of_gd a b)
  cases r <;> cases r' <;> exact this

end Xeh.Session
