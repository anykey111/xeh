/-
Tie B, tables (DESIGN §4.2) — every direct mutation of an interpreter stack / table (method: Proofs/LeafTables.lean).
-/
import XehModel.Generated.Tables

namespace Xeh.LeafBridge
open Xeh.Generated

/-- Every place of the crate (outside `#[cfg(test)]` and the `verif_hooks` block) that mutates one of
    the interpreter's stacks / tables directly, as (field.operation, enclosing function), in source
    order. `&mut` = a mutable borrow of the field or of one of its elements, `[]=` = assignment
    through an index. Read it as: the run-time stacks (`data_stack return_stack loops special heap`)
    are touched only by the primitives `push_data … alloc_heap`, their inverse `reverse_changes`,
    the two unwinders `build_unwind` / `abort_run`, and `foreach_next` (logged since the C02 repair);
    everything else is compile-time state (`code debug_map dict flow_stack nested input`). -/
def expectedMutationSites : List (String × String) := [
  ("input.truncate", "build_unwind"),
  ("nested.truncate", "build_unwind"),
  ("flow_stack.truncate", "build_unwind"),
  ("code.truncate", "build_unwind"),
  ("debug_map.truncate", "build_unwind"),
  ("dict.get_mut", "build_unwind"),
  ("dict.truncate", "build_unwind"),
  ("heap.truncate", "build_unwind"),
  ("data_stack.truncate", "build_unwind"),
  ("return_stack.truncate", "build_unwind"),
  ("loops.truncate", "build_unwind"),
  ("special.truncate", "build_unwind"),
  ("input.push", "intern_source"),
  ("input.last_mut", "next_token"),
  ("input.pop", "next_token"),
  ("nested.push", "context_open"),
  ("nested.pop", "context_close"),
  ("code.truncate", "context_close"),
  ("debug_map.truncate", "context_close"),
  ("dict.swap_remove", "context_close"),
  -- repair 0bda475: the results of a meta block are taken off the stack without a reverse-log entry;
  -- the model function that accounts for it is `Session.emitResults` (Model/Session.lean)
  ("data_stack.pop", "context_close"),
  ("dict.push", "dict_insert"),
  ("debug_map.[]=", "code_emit"),
  ("debug_map.push", "code_emit"),
  ("code.push", "code_emit"),
  ("code.[]=", "backpatch"),
  ("heap.get_mut", "swap_cell_ref"),
  ("heap.push", "alloc_heap"),
  ("return_stack.truncate", "abort_run"),
  ("loops.truncate", "abort_run"),
  ("special.truncate", "abort_run"),
  -- `Resolve` inside a meta block binds for one execution: swap the opcode in, run it, put `Resolve` back
  -- (Model/VM.lean `patchCode`)
  ("code.&mut", "fetch_and_run"),
  ("code.[]=", "fetch_and_run"),
  ("data_stack.pop", "reverse_changes"),
  ("data_stack.push", "reverse_changes"),
  ("data_stack.swap", "reverse_changes"),
  ("data_stack.swap", "reverse_changes"),
  ("return_stack.pop", "reverse_changes"),
  ("return_stack.push", "reverse_changes"),
  ("loops.push", "reverse_changes"),
  ("loops.pop", "reverse_changes"),
  ("loops.last_mut", "reverse_changes"),
  ("special.push", "reverse_changes"),
  ("special.pop", "reverse_changes"),
  ("heap.get_mut", "reverse_changes"),
  ("flow_stack.pop", "pop_flow"),
  ("flow_stack.push", "push_flow"),
  ("data_stack.push", "push_data"),
  ("data_stack.pop", "pop_data"),
  ("data_stack.swap", "swap_data"),
  ("data_stack.swap", "rot_data"),
  ("return_stack.push", "push_return"),
  ("return_stack.pop", "pop_return"),
  ("return_stack.&mut", "top_frame"),
  ("loops.push", "push_loop"),
  ("loops.pop", "pop_loop"),
  ("loops.last_mut", "loop_next"),
  ("special.push", "push_special"),
  ("special.pop", "pop_special"),
  ("flow_stack.remove", "take_first_cond_flow"),
  ("dict.get_mut", "core_word_def_end"),
  ("dict.get_mut", "core_word_immediate"),
  ("dict.&mut", "core_word_const"),
  ("loops.last_mut", "foreach_next"),
  ("flow_stack.last_mut", "enum_field_default"),
  ("flow_stack.last_mut", "enum_field_set_value")
]

theorem mutation_sites_match : src_mutation_sites = expectedMutationSites := rfl

/-- all of them are in state.rs (the fields are private to that module) -/
theorem mutation_sites_in_state_rs : src_mutation_files = List.replicate 66 "state.rs" := by decide +kernel

/-- the functions that may touch a run-time stack (`data_stack return_stack loops special heap`), in
    source order: the unwinder of a failed build, the closing of a meta block (it takes the block's results off the
    stack to re-emit them as literals: `Session.emitResults`), the heap primitives, the run-time unwinder, the
    reverse interpreter, the stack primitives `Prog` is built from (Model/Prog.lean) and
    `foreach_next` (logged since the C02 repair) -/
def runtimePrimitives : List String := [
  "build_unwind", "context_close", "swap_cell_ref", "alloc_heap", "abort_run", "reverse_changes", "push_data",
  "pop_data", "swap_data", "rot_data", "push_return", "pop_return", "top_frame",
  "push_loop", "pop_loop", "loop_next", "push_special", "pop_special", "foreach_next"]

/-- the statement that justifies modelling native words as programs over the primitives: no
    function outside `runtimePrimitives` — in particular no `core_word_*` — mutates a run-time stack
    directly -/
theorem runtime_mutators_match : src_runtime_mutators = runtimePrimitives := rfl

def isRuntimeField (site : String) : Bool :=
  ["data_stack.", "return_stack.", "loops.", "special.", "heap."].any fun f => f.isPrefixOf site

/-- the same, derived in Lean from the full site list (not from the translator's digest) -/
theorem runtime_mutations_only_in_primitives :
    ∀ s ∈ src_mutation_sites, isRuntimeField s.1 = true → s.2 ∈ runtimePrimitives := by
  decide +kernel

end Xeh.LeafBridge
