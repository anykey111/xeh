/-
Tie B, tables (DESIGN §4.2) — the immediate (compile-time) words registered by `State::boot()` (method: Proofs/LeafTables.lean).
-/
import XehModel.Generated.Tables

namespace Xeh.LeafBridge
open Xeh.Generated

/-- in registration order -/
def expectedImmediates : List String := [
  "if", "else", "then", "case", "of", "endof", "endcase", "begin", "while", "until",
  "break", "repeat", "[", "]", "{", "}", ":", ";", "late", "immediate",
  "local", "var", "!", "nil", "#(", "#)", "~)", "const", "do", "loop",
  "foreach", "defined", "let", "include", "require", "^{", "^}", "^hex", "^dec", "^oct",
  "^bin", "fmt/prefix", "fmt/tags", "fmt/upcase", "see", "enum", "endenum"
]

theorem immediates_match : src_immediates = expectedImmediates := rfl

end Xeh.LeafBridge
