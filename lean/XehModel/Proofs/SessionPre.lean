/-
A transitive relation between two machines that the VM's `run` and `pop_data` respect, that the compiling words respect
when their result is written back, and that holds between machines with the same meter and limits whenever data stack
and heap have not grown, holds between the machine a source is submitted to and the machine afterwards, whatever becomes
of the source and of its meta blocks.  No well-formedness hypothesis.  Instances: the meter (Proofs/SessionMeter.lean),
the stack and heap limits (Proofs/SessionBound.lean).
-/
import XehModel.Proofs.SessionLoop
import XehModel.Proofs.CompileHeap

namespace Xeh.Session
open Xeh Xeh.Mach Xeh.Compile Xeh.Session.Sess

structure MachPre (Q : Mach → Mach → Prop) : Prop where
  trans : ∀ {a b c : Mach}, Q a b → Q b c → Q a c
  /-- what the session layer itself does to the machine: code, dictionary, context, log, and shorter stacks -/
  frame : ∀ {a b : Mach}, b.meter = a.meter → b.insnLimit = a.insnLimit → b.stackLimit = a.stackLimit →
    b.heapLimit = a.heapLimit → b.ds.length ≤ a.ds.length → b.heap.length ≤ a.heap.length → Q a b
  run : ∀ (fuel : Nat) (m : Mach) (r : Outcome Unit × Mach), Mach.run nativeProg fuel m = some r → Q m r.2
  popData : ∀ m : Mach, Q m m.popData.2
  fromC : ∀ (s : Sess) (c : CState), HL s.toC c → Q s.m (s.fromC c).m

namespace MachPre
variable {Q : Mach → Mach → Prop} (M : MachPre Q)
include M

theorem same {a b : Mach} (e1 : b.meter = a.meter := by rfl) (e2 : b.insnLimit = a.insnLimit := by rfl)
    (e3 : b.stackLimit = a.stackLimit := by rfl) (e4 : b.heapLimit = a.heapLimit := by rfl)
    (e5 : b.ds.length = a.ds.length := by rfl) (e6 : b.heap.length = a.heap.length := by rfl) : Q a b :=
  M.frame e1 e2 e3 e4 (Nat.le_of_eq e5) (Nat.le_of_eq e6)

theorem runS (a : Mach) (fuel : Nat) (s : Sess) (h : Q a s.m) :
    (s.runS fuel).All (Q a ·.m) (Q a ·.m) (Q a ·.m) :=
  runS_all s fuel (fun _ hr => M.trans h (M.run fuel _ _ hr)) (fun _ _ hr => M.trans h (M.run fuel _ _ hr))
    (fun _ _ hr _ => M.trans h (M.run fuel _ _ hr))

theorem contextClose (a : Mach) (fuel : Nat) (s : Sess) (h : Q a s.m) :
    (s.contextClose fuel).All (Q a ·.m) (Q a ·.m) (Q a ·.m) := by
  refine contextClose_all (Q := (Q a ·.m)) s fuel h (fun _ => h) (M.runS a fuel)
    (fun s1 prev h1 => M.trans h1 (M.frame rfl rfl rfl rfl ?_ (Nat.le_refl _))) (fun s1 c h1 => M.trans h1 M.same)
  show (s1.m.ds.drop _).length ≤ s1.m.ds.length
  rw [List.length_drop]; exact Nat.sub_le _ _

theorem act (a : Mach) (fuel : Nat) (k : Kind) (s : Sess) (h : Q a s.m) :
    (act fuel s k).All (Q a ·.m) (Q a ·.m) (Q a ·.m) := by
  have ofC : ∀ r, HR s.toC r → (s.ofC r).All (Q a ·.m) (Q a ·.m) (Q a ·.m) := fun r hr =>
    ofC_all s r (fun c e => M.trans h (M.fromC s c (by rw [e] at hr; exact hr)))
      (fun x c e => M.trans h (M.fromC s c (by rw [e] at hr; exact hr)))
  cases k with
  | emit op => exact M.trans h M.same
  | openMeta => exact M.trans h M.same
  | closeMeta =>
    exact nestedEnd_all s fuel h (fun _ _ => M.contextClose a fuel s h)
  | const name =>
    have hp := M.trans h (M.popData s.m)
    exact constDef_all s name h (fun _ => hp) (fun _ _ _ => hp) (fun _ d u => M.trans hp M.same)
  | noName => exact h
  | late _ | named _ _ | imm _ | word _ => exact ofC _ (cact_hr _ _)

theorem buildSource (fuel : Nat) (mode : Mode) (toks : List Tok) (s : Sess) :
    (s.buildSource fuel mode toks).All (Q s.m ·.m) (Q s.m ·.m) := by
  refine buildSource_all fuel mode toks s
    (build1_all fuel (M.act s.m fuel) (fun x h => metaRun_all x fuel h (fun _ => M.runS s.m fuel x h)) (fun _ _ h => h)
      (fun _ h => h) toks (s.contextOpen mode) M.same)
    (fun s2 h => M.trans h (M.frame rfl rfl rfl rfl ?_ ?_)) (fun s2 h => M.contextClose s.m fuel _ (M.trans h M.same))
  · simp only [Sess.unwind, List.length_drop]; omega
  · simp only [Sess.unwind, List.length_take]; omega

end MachPre

end Xeh.Session
