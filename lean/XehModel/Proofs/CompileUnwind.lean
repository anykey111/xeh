/-
Everything a build does to the compiler state is *above the marks* taken before it started — code and debug map are only
extended, backpatching only touches jumps emitted since the mark (the origins recorded in pending flows never point
below it), the dictionary only grows at the new end, the heap only grows. Hence truncating to the marks (`build_unwind`)
restores the state.
-/
import XehModel.Proofs.CompileWalk

namespace Xeh.Compile
open CState

structure Pre (s0 s : CState) : Prop where
  code : s.code.take s0.code.length = s0.code
  dmap : s.dmap.take s0.dmap.length = s0.dmap
  dict : ∃ d, s.dict = d ++ s0.dict
  heap : s0.heapLen ≤ s.heapLen
  len : s0.code.length ≤ s.code.length
  dlen : s0.dmap.length ≤ s.dmap.length
  lim : s.heapLimit = s0.heapLimit ∧ s.hiddenFlows = s0.hiddenFlows

theorem Pre.refl (s : CState) : Pre s s :=
  ⟨by simp, by simp, ⟨[], by simp⟩, Nat.le_refl _, Nat.le_refl _, Nat.le_refl _, ⟨rfl, rfl⟩⟩

theorem pre_emit {s0 s : CState} (op : Op) (h : Pre s0 s) : Pre s0 (s.emit op) where
  code := by simp only [emit]; rw [List.take_append_of_le_length h.len]; exact h.code
  dmap := by simp only [emit]; rw [List.take_append_of_le_length h.dlen]; exact h.dmap
  dict := h.dict
  heap := h.heap
  len := by simp [emit]; have := h.len; omega
  dlen := by simp [emit]; have := h.dlen; omega
  lim := h.lim

theorem pre_emitNative {s0 s : CState} (n : String) (h : Pre s0 s) : Pre s0 (emitNative s n) := pre_emit _ h

theorem pre_keeps (s0 : CState) : Keeps s0.code.length (fun _ => True) (Pre s0) where
  mark h := h.len
  emit op _ h := pre_emit op h
  flows _ h := ⟨h.code, h.dmap, h.dict, h.heap, h.len, h.dlen, h.lim⟩
  patch {s} i op h hi :=
    ⟨by show (s.code.set i op).take _ = _; rw [List.take_set_of_le hi]; exact h.code, h.dmap, h.dict, h.heap,
     by show _ ≤ (s.code.set i op).length; rw [List.length_set]; exact h.len, h.dlen, h.lim⟩
  dict e h := ⟨h.code, h.dmap, h.dict.elim fun d hd => ⟨e :: d, congrArg (e :: ·) hd⟩, h.heap, h.len, h.dlen, h.lim⟩
  alloc h _ := ⟨h.code, h.dmap, h.dict, Nat.le_succ_of_le h.heap, h.len, h.dlen, h.lim⟩
  tok _ h := ⟨h.code, h.dmap, h.dict, h.heap, h.len, h.dlen, h.lim⟩

def Good (s0 : CState) : CRes CState → Prop :=
  CRes.All (fun s' => Pre s0 s' ∧ Orgs s0.code.length s'.flows) fun _ sp => Pre s0 sp

theorem Kept.good {s0 : CState} {r : CRes CState} (h : Kept s0.code.length (fun _ => True) (Pre s0) r) : Good s0 r :=
  h.imp (fun _ h => ⟨h.j, h.orgs⟩) fun _ _ h => h.1

theorem emitNative_flows (s : CState) (n : String) : (emitNative s n).flows = s.flows := rfl

theorem cact_good (s0 s : CState) (k : Kind) (hp : Pre s0 s) (ho : Orgs s0.code.length s.flows) : Good s0 (cact s k) :=
  (cact_keeps (pre_keeps s0) k (fun _ _ => trivial) ⟨hp, trivial, ho⟩).good

theorem late_good (s0 s : CState) (n : String) (t : Nat) (hp : Pre s0 s) (ho : Orgs s0.code.length s.flows) :
    Good s0 (late s n t) := (late_keeps (pre_keeps s0) n t trivial ⟨hp, trivial, ho⟩).good

theorem compileToks_good (toks : List Tok) (idx : Nat) (s0 s : CState) (hp : Pre s0 s)
    (ho : Orgs s0.code.length s.flows) : Good s0 (compileToks toks idx s) :=
  (compileToks_keeps (pre_keeps s0) toks idx s (fun _ _ _ => tokOk_of (pre_keeps s0) trivial) hp ho).imp
    (fun _ h => h) fun _ _ h => h.1

/-- `build_unwind` on the compiler's part of the state -/
def unwindC (s0 s : CState) : CState :=
  { s with code := s.code.take s0.code.length, dmap := s.dmap.take s0.dmap.length,
           dict := s.dict.drop (s.dict.length - s0.dict.length), heapLen := s0.heapLen,
           flows := s0.flows, lastTok := s0.lastTok, inMeta := s0.inMeta }

theorem unwindC_restores {s0 s : CState} (h : Pre s0 s) : unwindC s0 s = s0 := by
  obtain ⟨d, hd⟩ := h.dict
  cases s0; cases s
  simp only [unwindC, CState.mk.injEq]
  have h1 := h.code; have h2 := h.dmap; have h3 := h.lim
  simp only at h1 h2 h3 hd
  refine ⟨h1, h2, trivial, ?_, trivial, h3.1, h3.2, trivial, trivial⟩
  subst hd
  simp

end Xeh.Compile
