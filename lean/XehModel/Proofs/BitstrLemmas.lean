/-
The reading side of the L1 model (Model/Bitstr.lean): what `cut_bits` selects from one byte (shift and mask
read as binary digits), lifted to `Iter8`, `Bits` and `to_uint`.
-/
import XehModel.Model.Bitstr
import XehModel.Proofs.BitsLemmas

namespace Xeh.Bitstr
open Xeh Xeh.Bits

theorem upperBoundIndex_eq (n : Nat) : upperBoundIndex n = (n + 7) / 8 := by
  unfold upperBoundIndex; split <;> omega

theorem ubi_le (e L : Nat) (h : e ≤ 8 * L) : upperBoundIndex e ≤ L := by
  rw [upperBoundIndex_eq]; omega

theorem bitMask_eq (len : Nat) (h : len ≤ 8) : bitMask len = 2 ^ len - 1 := by
  unfold bitMask
  rw [show len % 2 ^ 32 % 32 = len by omega]
  exact low_mask 8 len h

/-- the `% 8` of `wrapping_shr` only matters for `sb + len = 0`, where the mask is 0 -/
theorem cutCore_spec (x sb len : Nat) (h : sb + len ≤ 8) :
    cutCore x sb len = beVal (((bitsOfNat 8 x).drop sb).take len) := by
  rw [bitsOfNat_drop, bitsOfNat_take _ _ _ (by omega), beVal_bitsOfNat]
  unfold cutCore
  rw [bitMask_eq len (by omega), Nat.and_two_pow_sub_one_eq_mod, Nat.shiftRight_eq_div_pow]
  by_cases h0 : len = 0
  · rw [h0, Nat.pow_zero, Nat.mod_one, Nat.mod_one]
  · rw [show (8 - (sb + len)) % 8 = 8 - sb - len by omega]

theorem idx_of_getElem? {bytes : List Nat} {i b : Nat} (h : bytes[i]? = some b) : idx bytes i = .ok b := by
  simp [idx, h]

theorem allBits_length (bytes : List Nat) : (allBits bytes).length = 8 * bytes.length := ofBytes_length bytes

theorem slice_allBits_length (bs : List Nat) (a b : Nat) (h : b ≤ 8 * bs.length) :
    (slice (allBits bs) a b).length = b - a :=
  slice_length _ _ _ (by rw [allBits_length]; exact h)

theorem cutBits_spec (bs : List Nat) (start end_ b : Nat) (hle : start ≤ end_) (hg : bs[start / 8]? = some b) :
    cutBits b start end_ =
      .ok (beVal (slice (allBits bs) start (start + min (end_ - start) (8 - start % 8))),
           min (end_ - start) (8 - start % 8)) := by
  obtain ⟨hi, hbe⟩ := List.getElem?_eq_some_iff.mp hg
  unfold cutBits
  rw [if_neg (by omega)]
  simp only
  rw [cutCore_spec b (start % 8) _ (by omega)]
  unfold allBits
  rw [slice_in_byte bs start _ (by omega) hi, hbe]

theorem iter8Next_spec (v : View) (hbound : v.end_ ≤ 8 * v.bytes.length) (pos : Nat) (hpos : pos < v.end_) :
    v.iter8Next pos =
      .ok (some ((beVal (slice (allBits v.bytes) pos (pos + min (v.end_ - pos) 8)), min (v.end_ - pos) 8),
                 pos + min (v.end_ - pos) 8)) := by
  obtain ⟨b0, hb0⟩ : ∃ b, v.bytes[pos / 8]? = some b := ⟨_, List.getElem?_eq_getElem (by omega)⟩
  unfold View.iter8Next
  rw [if_neg (by omega)]
  simp only
  rw [idx_of_getElem? hb0]
  simp only
  have hlen : 0 < min (v.end_ - pos) 8 ∧ min (v.end_ - pos) 8 ≤ 8 ∧ pos + min (v.end_ - pos) 8 ≤ v.end_ := by
    omega
  generalize min (v.end_ - pos) 8 = len at *
  rw [cutBits_spec v.bytes pos _ b0 (by omega) hb0]
  simp only
  rw [Nat.add_sub_cancel_left]
  have hm8 := Nat.mod_lt pos (by decide : 0 < 8)
  have hdm := Nat.div_add_mod pos 8
  generalize pos % 8 = m at *
  generalize pos / 8 = q at *
  by_cases hn : len ≤ 8 - m
  · rw [Nat.min_eq_left hn, if_neg (Nat.lt_irrefl _)]
  · -- the group continues in the next byte, which starts at bit `8 * (q + 1)`
    rw [Nat.min_eq_right (by omega), if_pos (by omega)]
    obtain ⟨b1, hb1⟩ : ∃ b, v.bytes[q + 1]? = some b := ⟨_, List.getElem?_eq_getElem (by omega)⟩
    rw [idx_of_getElem? hb1]
    simp only
    rw [show pos + (8 - m) = 8 * (q + 1) by omega,
      cutBits_spec v.bytes (8 * (q + 1)) _ b1 (by omega) (by rw [Nat.mul_div_cancel_left _ (by decide)]; exact hb1)]
    simp only
    rw [Nat.mul_mod_right, show min (pos + len - 8 * (q + 1)) (8 - 0) = pos + len - 8 * (q + 1) by omega,
      show 8 * (q + 1) + (pos + len - 8 * (q + 1)) = pos + len by omega,
      slice_split (allBits v.bytes) pos (8 * (q + 1)) (pos + len) (by omega) (by omega)]
    have := beVal_append_or (slice (allBits v.bytes) pos (8 * (q + 1)))
      (slice (allBits v.bytes) (8 * (q + 1)) (pos + len)) 256
      (by rw [slice_allBits_length _ _ _ (by omega), slice_allBits_length _ _ _ (by omega)]
          exact Nat.pow_le_pow_right (by decide) (by omega : 8 * (q + 1) - pos + (pos + len - 8 * (q + 1)) ≤ 8))
    rw [slice_allBits_length _ _ _ (by omega)] at this
    rw [this]

theorem iter8Go_spec (v : View) (hbound : v.end_ ≤ 8 * v.bytes.length) :
    ∀ fuel pos, pos ≤ v.end_ → v.end_ - pos < fuel →
      v.iter8Go fuel pos = .ok (Bits.iter8 (slice (allBits v.bytes) pos v.end_)) := by
  intro fuel
  induction fuel with
  | zero => intro pos _ h; omega
  | succ fuel ih =>
    intro pos hle hf
    unfold View.iter8Go
    by_cases hp : pos < v.end_
    · rw [iter8Next_spec v hbound pos hp]
      simp only
      rw [ih _ (by omega) (by omega)]
      simp only
      have hne : slice (allBits v.bytes) pos v.end_ ≠ [] := by
        intro h
        have := slice_allBits_length v.bytes pos v.end_ hbound
        rw [h] at this; simp at this; omega
      simp only [Bits.iter8]
      rw [chunks8_of_ne hne, List.map_cons, slice_take8, slice_drop8]
      congr 3
      rw [slice_allBits_length _ _ _ (by omega)]; omega
    · have : pos = v.end_ := by omega
      subst this
      have : v.iter8Next v.end_ = .ok none := by
        unfold View.iter8Next; rw [if_pos (by omega)]
      rw [this, slice_self]
      simp [Bits.iter8]

theorem View.iter8_spec (v : View) (h : v.WF) : v.iter8 = .ok (Bits.iter8 v.bits) := by
  unfold View.iter8 View.bits
  exact iter8Go_spec v h.bound _ _ h.le (by omega)

theorem slice_one (l : List Bool) (p : Nat) (h : p < l.length) : slice l p (p + 1) = [l[p]] := by
  unfold slice
  have : p + 1 - p = 1 := by omega
  rw [this, List.drop_eq_getElem_cons h]; rfl

theorem bitsNext_spec (v : View) (hbound : v.end_ ≤ 8 * v.bytes.length) (pos : Nat) (hpos : pos < v.end_) :
    v.bitsNext pos = .ok (some (((allBits v.bytes)[pos]?.getD false).toNat, pos + 1)) := by
  have hi : pos / 8 < v.bytes.length := by omega
  unfold View.bitsNext allBits
  rw [if_neg (by omega), idx_of_getElem? (List.getElem?_eq_getElem hi), getElem?_ofBytes, List.getElem?_eq_getElem hi]
  simp only [Option.map_some, Option.getD_some, Nat.toNat_testBit, Nat.and_one_is_mod, Nat.shiftRight_eq_div_pow]

theorem bitsGo_spec (v : View) (hbound : v.end_ ≤ 8 * v.bytes.length) :
    ∀ fuel pos, pos ≤ v.end_ → v.end_ - pos < fuel →
      v.bitsGo fuel pos = .ok (bitNums (slice (allBits v.bytes) pos v.end_)) := by
  intro fuel
  induction fuel with
  | zero => intro pos _ h; omega
  | succ fuel ih =>
    intro pos hle hf
    unfold View.bitsGo
    by_cases hp : pos < v.end_
    · have hl : pos < (allBits v.bytes).length := by rw [allBits_length]; omega
      rw [bitsNext_spec v hbound pos hp]
      simp only
      rw [ih _ (by omega) (by omega), slice_split (allBits v.bytes) pos (pos + 1) v.end_ (by omega) (by omega),
        slice_one _ _ hl, List.getElem?_eq_getElem hl]
      rfl
    · have : pos = v.end_ := by omega
      subst this
      have : v.bitsNext v.end_ = .ok none := by
        unfold View.bitsNext; rw [if_pos (by omega)]
      rw [this, slice_self]
      rfl
theorem View.bitsIter_spec (v : View) (h : v.WF) : v.bitsIter = .ok (bitNums v.bits) := by
  unfold View.bitsIter View.bits
  exact bitsGo_spec v h.bound _ _ h.le (by omega)

/-- one round of `to_uint`'s `acc = (acc << n) as u128 | val`, as arithmetic modulo `2^128` -/
theorem acc_step (acc val n : Nat) (hv : val < 2 ^ n) (hn : n ≤ 128) :
    ((acc <<< n) % 2 ^ 128) ||| val = (acc * 2 ^ n + val) % 2 ^ 128 := by
  have hM : (2 : Nat) ^ 128 = 2 ^ n * 2 ^ (128 - n) := by rw [← Nat.pow_add]; congr 1; omega
  rw [Nat.shiftLeft_eq, Nat.mul_comm acc, hM, Nat.mul_mod_mul_left, ← Nat.two_pow_add_eq_or_of_lt hv]
  rw [Nat.mod_mul, Nat.mul_add_mod, Nat.mod_eq_of_lt hv, Nat.mul_add_div (Nat.two_pow_pos n),
    Nat.div_eq_of_lt hv, Nat.add_zero, Nat.add_comm]

theorem toUintBEGo_spec (bs : List Nat) (end_ : Nat) (hbound : end_ ≤ 8 * bs.length) :
    ∀ r pos acc, pos < end_ → r = (bs.drop (pos / 8)).take ((end_ + 7) / 8 - pos / 8) →
      View.toUintBEGo end_ r pos acc =
        .ok ((acc * 2 ^ (end_ - pos) + beVal (slice (allBits bs) pos end_)) % 2 ^ 128) := by
  intro r
  induction r with
  | nil =>
    intro pos acc hp hr
    have hl := congrArg List.length hr
    rw [List.length_take, List.length_drop] at hl
    simp only [List.length_nil] at hl
    omega
  | cons b r' ih =>
    intro pos acc hp hr
    have hj : pos / 8 < bs.length := by omega
    rw [show (end_ + 7) / 8 - pos / 8 = ((end_ + 7) / 8 - (pos / 8 + 1)) + 1 by omega,
      List.drop_eq_getElem_cons hj, List.take_succ_cons] at hr
    injection hr with hb0 hr'
    unfold View.toUintBEGo
    rw [cutBits_spec bs pos end_ b (by omega) (by rw [List.getElem?_eq_getElem hj, hb0])]
    simp only
    generalize hn : min (end_ - pos) (8 - pos % 8) = n
    have hv := beVal_lt (slice (allBits bs) pos (pos + n))
    rw [slice_allBits_length _ _ _ (by omega), show pos + n - pos = n by omega] at hv
    rw [acc_step _ _ _ hv (by omega)]
    -- `cut_bits` runs to the byte boundary unless it reaches `end_`: the next step starts the next byte of `r`
    by_cases hp' : pos + n < end_
    · rw [ih (pos + n) _ hp' (by rw [show (pos + n) / 8 = pos / 8 + 1 by omega]; exact hr'),
        mod_step, slice_split (allBits bs) pos (pos + n) end_ (by omega) (by omega), beVal_append,
        slice_allBits_length _ _ _ hbound, show n + (end_ - (pos + n)) = end_ - pos by omega]
    · have hr0 : r' = [] := by
        rw [hr', show (end_ + 7) / 8 - (pos / 8 + 1) = 0 by omega]; rfl
      subst hr0
      unfold View.toUintBEGo
      rw [show pos + n = end_ by omega, show end_ - pos = n by omega]

theorem sliceBytes_bytesRange (v : View) (h : v.WF) :
    sliceBytes v.bytes v.bytesRange.1 v.bytesRange.2 =
      .ok ((v.bytes.drop (v.start / 8)).take ((v.end_ + 7) / 8 - v.start / 8)) := by
  have hle := h.le
  have hbound := h.bound
  unfold View.bytesRange sliceBytes
  simp only
  rw [upperBoundIndex_eq, if_pos ⟨by omega, by omega⟩]

theorem View.toUint_be_spec (v : View) (h : v.WF) : v.toUint .big = .ok (beVal v.bits % 2 ^ 128) := by
  have hle := h.le
  unfold View.toUint
  rw [sliceBytes_bytesRange v h]
  simp only
  by_cases hp : v.start < v.end_
  · rw [toUintBEGo_spec v.bytes v.end_ h.bound _ v.start 0 hp rfl]
    simp [View.bits]
  · -- an empty value: at most one backing byte, from which `cut_bits` takes nothing
    have he : v.start = v.end_ := by omega
    have hbits : v.bits = [] := by unfold View.bits; rw [he, slice_self]
    rw [hbits]
    have hlen : ((v.bytes.drop (v.start / 8)).take ((v.end_ + 7) / 8 - v.start / 8)).length ≤ 1 := by
      rw [List.length_take]; omega
    generalize (v.bytes.drop (v.start / 8)).take ((v.end_ + 7) / 8 - v.start / 8) = r at hlen
    match r, hlen with
    | [], _ => simp [View.toUintBEGo]
    | [b], _ =>
      unfold View.toUintBEGo cutBits
      rw [if_neg (by omega)]
      simp only
      rw [show min (v.end_ - v.start) (8 - v.start % 8) = 0 by omega]
      unfold cutCore
      rw [bitMask_eq 0 (by omega)]
      simp [View.toUintBEGo]

theorem toUintLEGo_ignore : ∀ (items : List (Nat × Nat)) (shift acc : Nat), 128 ≤ shift →
    View.toUintLEGo items shift acc = acc := by
  intro items
  induction items with
  | nil => intros; rfl
  | cons it r ih =>
    intro shift acc h
    obtain ⟨val, n⟩ := it
    unfold View.toUintLEGo
    rw [if_neg (by omega)]
    exact ih _ _ (by omega)

theorem toUintLEGo_spec (l : List Bool) : ∀ (k acc : Nat), acc < 2 ^ (8 * k) → acc < 2 ^ 128 →
    View.toUintLEGo (Bits.iter8 l) (8 * k) acc = (acc + 2 ^ (8 * k) * leVal l) % 2 ^ 128 := by
  induction l using drop8_induction with
  | nil =>
    intro k acc _ hacc'
    simp [Bits.iter8, View.toUintLEGo, Nat.mod_eq_of_lt hacc']
  | step l hl ih =>
    intro k acc hacc hacc'
    by_cases hk : 8 * k < 128
    · rw [iter8_of_ne hl, leVal_of_ne hl]
      unfold View.toUintLEGo
      rw [if_pos hk]
      have hg8 : (l.take 8).length ≤ 8 := by rw [List.length_take]; omega
      have hg : beVal (l.take 8) < 256 :=
        Nat.lt_of_lt_of_le (beVal_lt _) (Nat.pow_le_pow_right (by decide) hg8)
      generalize beVal (l.take 8) = g at *
      have hP : (2 : Nat) ^ (8 * (k + 1)) = 2 ^ (8 * k) * 256 := by rw [Nat.mul_add, Nat.pow_add]
      have hPM : (2 : Nat) ^ (8 * (k + 1)) ≤ 2 ^ 128 := Nat.pow_le_pow_right (by decide) (by omega)
      have hacc2 : g * 2 ^ (8 * k) + acc < 2 ^ (8 * (k + 1)) := by
        rw [hP]
        have : g * 2 ^ (8 * k) ≤ 255 * 2 ^ (8 * k) := Nat.mul_le_mul_right _ (by omega)
        omega
      -- `acc < 2^(8k)`, so OR with the group shifted by `8k` is addition
      rw [Nat.or_comm, shl_mod_or g acc (8 * k) _ hacc (by omega)]
      by_cases hl' : l.drop 8 = []
      · rw [hl', leVal_nil]
        simp only [Bits.iter8, chunks8_nil, List.map_nil, View.toUintLEGo]
        rw [Nat.mul_zero, Nat.add_zero, Nat.mod_eq_of_lt (by rw [Nat.mul_comm]; omega), Nat.mul_comm,
          Nat.add_comm]
      · have h8 : (l.take 8).length = 8 := by
          have : (l.drop 8).length ≠ 0 := fun h0 => hl' (List.eq_nil_of_length_eq_zero h0)
          rw [List.length_drop] at this
          rw [List.length_take]; omega
        rw [h8, show 8 * k + 8 = 8 * (k + 1) by omega, ih (k + 1) _ hacc2 (by omega), hP]
        rw [Nat.mul_add (2 ^ (8 * k)) g, Nat.mul_comm g, Nat.mul_assoc, Nat.add_comm (2 ^ (8 * k) * g) acc,
          Nat.add_assoc]
    · -- from shift 128 on the groups are ignored, and their weight vanishes modulo `2^128`
      rw [toUintLEGo_ignore _ _ _ (by omega), show 8 * k = 128 + (8 * k - 128) by omega, Nat.pow_add,
        Nat.mul_assoc, Nat.add_mul_mod_self_left, Nat.mod_eq_of_lt hacc']

theorem View.toUint_le_spec (v : View) (h : v.WF) : v.toUint .little = .ok (leVal v.bits % 2 ^ 128) := by
  unfold View.toUint
  rw [sliceBytes_bytesRange v h]
  simp only
  rw [View.iter8_spec v h]
  simp only
  have := toUintLEGo_spec v.bits 0 0 (by simp) (by decide)
  simp at this
  rw [this]

end Xeh.Bitstr
