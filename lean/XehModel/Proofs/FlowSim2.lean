/- The block lemma, by the recursion of the recursive-descent parser, and the result. -/
import XehModel.Proofs.FlowSimItems
import XehModel.Proofs.FlowHoles

namespace Xeh.Structured
open Xeh Xeh.Mach Xeh.Compile Xeh.Compile.CState

/-- The cases are those of `parseBlock` (`parseBlock.induct`): `ih1` is the lemma for what follows the item, `ih2`, `ih3`
    for the sub-blocks the item opens.  Every item goes the same way: the states in which its sub-blocks are compiled
    (`At.sub`), the lemma for them, what the item has then done (`Did`, from FlowSimItems), and `Sim.next`. -/
theorem block_sim2 (f : Nat) (toks : List Tok) (idx : Nat) (p : PState) (top : Bool) (acc : List Stmt) :
    ∀ (blk : Block) (k r : Bool) (s0 s : CState), parseBlock f toks idx p top acc = some blk → WFS blk.stmt k r = true →
      (top = true → k = false ∧ r = false) → Sim p top k s0 acc s → ∃ s', BlockOK2 toks idx p blk s0 s s' := by
  fun_induction parseBlock f toks idx p top acc <;> intro blk k r s0 s h hw htk hS
  case case2 f idx p top acc =>
    -- end of input
    cases h
    exact ⟨s, hS.did.seqs, rfl, fun _ => rfl, fun hne => absurd rfl hne⟩
  case case3 f c rest idx p top acc ih1 =>
    -- a literal
    exact hS.next (ih1 blk k r s0 _ h hw htk) (hS.at.emit idx _) rfl rfl rfl
  case case4 f w rest idx p top acc i hloc ih1 =>
    -- a local of the open definition
    exact hS.next (ih1 blk k r s0 _ h hw htk) (hS.at.emit idx _) rfl rfl (hS.at.local hloc _)
  case case6 f w rest idx p top acc hloc c hl ih1 =>
    -- a constant
    exact hS.next (ih1 blk k r s0 _ h hw htk) (hS.at.emit idx _) rfl rfl (hS.at.word hloc hl rfl _)
  case case7 f w rest idx p top acc hloc a hl ih1 =>
    -- a variable
    exact hS.next (ih1 blk k r s0 _ h hw htk) (hS.at.emit idx _) rfl rfl (hS.at.word hloc hl rfl _)
  case case9 f w rest idx p top acc cur hloc addr hl ih1 =>
    -- a call of an interpreted word
    exact hS.next (ih1 blk k r s0 _ h hw htk) (did_call hS.at idx addr _) rfl rfl (hS.at.word hloc hl rfl _)
  case case10 f w rest idx p top acc hloc n hl ih1 =>
    -- a native word that is not immediate
    exact hS.next (ih1 blk k r s0 _ h hw htk) (hS.at.emit idx _) rfl rfl (hS.at.word hloc hl rfl _)
  case case11 f w rest idx p top acc hloc n hl t ht =>
    -- a closing word: the block ends in front of it
    cases h
    have e := termOf_inv n t ht
    refine ⟨s, hS.did.seqs, rfl, fun ht' => ?_, fun _ s3 hi => hS.at.imm hloc hl (e ▸ hi) rest⟩
    cases ht'; subst e; exact absurd ht (by decide)
  case case12 f w rest idx p top acc pc0 cur hloc a ti rest2 nx st2 hsub hl _ ih2 ih1 =>
    -- if … then
    have hwa : WFS a k false = true := by simpa [WFS] using wfs_of_acc h hw _ (.head _)
    have hA := hS.at
    obtain ⟨s2, b⟩ := ih2 _ k false _ _ hsub hwa nofun
      ((hA.sub idx (.ifF s.code.length) [.jumpIfNot 0] nofun (hA.loops_cons _)).start nofun)
    obtain ⟨s3, hcl, d⟩ := did_ifThen idx ti p.pc b.did (wfs_noArm _ _ hwa)
    exact hS.next (ih1 blk k r s0 s3 h hw htk) d rfl b.isSome ((hA.imm hloc hl (open_if _) _).trans (b.close nofun s3 hcl))
  case case13 f w rest idx p top acc pc0 cur hloc a te rest1 nx1 st1 hsub1 b ti rest2 nx2 st2 hsub2 hl _ ih3 ih2 ih1 =>
    -- if … else … then
    have hwab : WFS a k false = true ∧ WFS b k false = true := by simpa [WFS] using wfs_of_acc h hw _ (.head _)
    have hA := hS.at
    obtain ⟨s2, b1⟩ := ih3 _ k false _ _ hsub1 hwab.1 nofun
      ((hA.sub idx (.ifF s.code.length) [.jumpIfNot 0] nofun (hA.loops_cons _)).start nofun)
    obtain ⟨sB, hel, hAB, hclose⟩ := did_else hA idx te b1.isSome b1.did (wfs_noArm _ _ hwab.1)
    obtain ⟨s4, b2⟩ := ih2 _ k false sB sB hsub2 hwab.2 nofun (hAB.start nofun)
    obtain ⟨s5, hcl, d⟩ := hclose ti p.pc b2.did (wfs_noArm _ _ hwab.2)
    exact hS.next (ih1 blk k r s0 s5 h hw htk) d rfl (b2.isSome.trans b1.isSome)
      ((hA.imm hloc hl (open_if _) _).trans ((b1.close nofun sB hel).trans (b2.close nofun s5 hcl)))
  case case17 f w rest idx p top acc pc0 cur hloc a tu rest2 nx st2 hsub hfb hl _ ih2 ih1 =>
    -- begin … until
    have hwa : WFS a false false = true := by simpa [WFS] using wfs_of_acc h hw _ (.head _)
    have hA := hS.at
    obtain ⟨s2, b⟩ := ih2 _ false false _ _ hsub hwa nofun
      ((hA.sub (k' := false) idx (.beginF s.code.length) [] nofun nofun).start nofun)
    obtain ⟨s3, hcl, d⟩ := did_until idx tu p.pc b.did hwa
    exact hS.next (ih1 blk k r s0 s3 h hw htk) d rfl b.isSome ((hA.imm hloc hl (opened_begin _) _).trans (b.close nofun s3 hcl))
  case case18 f w rest idx p top acc pc0 cur hloc a tr rest2 nx st2 hsub hl _ ih2 ih1 =>
    -- begin … repeat
    have hwa : WFS a true false = true := by simpa [WFS] using wfs_of_acc h hw _ (.head _)
    have hA := hS.at
    obtain ⟨s2, b⟩ := ih2 _ true false _ _ hsub hwa nofun
      ((hA.sub idx (.beginF s.code.length) [] nofun (fun _ => rfl)).start nofun)
    obtain ⟨s3, hcl, d⟩ := did_repeat idx tr p.pc b.did hwa
    exact hS.next (ih1 blk k r s0 s3 h hw htk) d rfl b.isSome ((hA.imm hloc hl (opened_begin _) _).trans (b.close nofun s3 hcl))
  case case20 f w rest idx p top acc pc0 cur hloc c tw rest1 nx1 st1 hsub1 hfb a tr rest2 nx2 st2 hsub2 hl _ ih3 ih2 ih1 =>
    -- begin … while … repeat
    have hwca : WFS c false false = true ∧ WFS a true false = true := by simpa [WFS] using wfs_of_acc h hw _ (.head _)
    have hA := hS.at
    have hAA := hA.sub (k' := false) idx (.beginF s.code.length) [] nofun nofun
    obtain ⟨s2, b1⟩ := ih3 _ false false _ _ hsub1 hwca.1 nofun (hAA.start nofun)
    have hA2 := b1.did.at (k := false) (hAA.loc.wl b1.isSome) nofun hAA.len
    obtain ⟨s4, b2⟩ := ih2 _ true false _ _ hsub2 hwca.2 nofun
      ((hA2.sub tw (.whileF s2.code.length) [.jumpIfNot 0] nofun (fun _ => rfl)).start nofun)
    obtain ⟨s5, hcl, d⟩ := did_while idx tw tr p.pc b1.did hwca.1 b2.did hwca.2
    exact hS.next (ih1 blk k r s0 s5 h hw htk) d rfl (b2.isSome.trans b1.isSome)
      ((hA.imm hloc hl (opened_begin _) _).trans ((b1.close nofun _ (open_while _)).trans (b2.close nofun s5 hcl)))
  case case23 f w rest idx p top acc pc0 cur hloc a tl rest2 nx st2 hsub hl _ ih2 ih1 =>
    -- do … loop
    have hwa : WFS a true false = true := by simpa [WFS, straight] using wfs_of_acc h hw _ (.head _)
    have hA := hS.at
    obtain ⟨s2, b⟩ := ih2 _ true false _ _ hsub hwa nofun
      ((hA.sub idx (.doF s.code.length (s.code.length + 1)) [.doOp 0] nofun (fun _ => rfl)).start nofun)
    obtain ⟨s3, hcl, d⟩ := did_do idx tl p.pc b.did hwa
    exact hS.next (ih1 blk k r s0 s3 h hw htk) d rfl b.isSome ((hA.imm hloc hl (open_do _) _).trans (b.close nofun s3 hcl))
  case case25 f w rest idx p top acc pc0 cur hloc a tl rest2 nx st2 hsub hl _ ih2 ih1 =>
    -- foreach … loop
    have hwa : WFS a true false = true := by simpa [WFS, straight] using wfs_of_acc h hw _ (.head _)
    have hA := hS.at
    obtain ⟨s2, b⟩ := ih2 _ true false _ _ hsub hwa nofun
      ((hA.sub idx (.doF (s.code.length + 1) (s.code.length + 2)) [.native "<foreach-init>", .doOp 0, .native "<foreach-next>"]
        nofun (fun _ => rfl)).start nofun)
    obtain ⟨s3, hcl, d⟩ := did_foreach hA idx tl p.pc b.did hwa
    exact hS.next (ih1 blk k r s0 s3 h hw htk) d rfl b.isSome ((hA.imm hloc hl (open_foreach _) _).trans (b.close nofun s3 hcl))
  case case27 f w rest idx p top acc pc0 cur hloc a ti rest2 nx st2 hsub hl _ ih2 ih1 =>
    -- case … endcase
    have hwa : WFS a k true = true := by simpa [WFS] using wfs_of_acc h hw _ (.head _)
    have hA := hS.at
    obtain ⟨s2, b⟩ := ih2 _ k true _ _ hsub hwa nofun ((hA.sub idx .caseF [] nofun (hA.loops_cons _)).start nofun)
    obtain ⟨s3, hcl, d⟩ := did_case idx ti p.pc b.did
    exact hS.next (ih1 blk k r s0 s3 h hw htk) d rfl b.isSome ((hA.imm hloc hl (open_case _) _).trans (b.close nofun s3 hcl))
  case case30 f w rest idx p top acc pc0 cur hloc a te rest2 nx st2 hsub hfa hl _ ih2 ih1 =>
    -- of … endof
    have hwa : WFS a k false = true := by
      have := wfs_of_acc h hw _ (.head _); simp only [WFS, Bool.and_eq_true] at this; exact this.2
    have hA := hS.at
    obtain ⟨s2, b⟩ := ih2 _ k false _ _ hsub hwa nofun
      ((hA.sub idx (.caseOfF s.code.length) [.caseOf 0] nofun (hA.loops_cons _)).start nofun)
    obtain ⟨s3, hcl, d⟩ := did_arm idx te p.pc b.did (wfs_noArm _ _ hwa)
    exact hS.next (ih1 blk k r s0 s3 h hw htk) d rfl b.isSome ((hA.imm hloc hl (open_of _) _).trans (b.close nofun s3 hcl))
  case case33 f w rest idx p top acc pc0 cur hloc a tc rest2 nx st2 hsub hfree hl _ ih2 ih1 =>
    -- [ … ]
    simp only [Bool.or_eq_true, not_or, Bool.not_eq_true] at hfree
    have hwa : WFS a k r = true := wfs_of_acc h hw _ (.tail _ (.head _))
    have hA := hS.at
    obtain ⟨s2, b⟩ := ih2 _ k r _ _ hsub hwa nofun ((hA.sub idx .vecF [.native "<vec-begin>"] nofun (hA.loops_cons _)).start nofun)
    obtain ⟨s3, hcl, d⟩ := did_builder (fo := .vecF) idx tc p.pc nofun (fun s' fl => (close_builder s' fl).1) b.did
      (wfs_freeArm_noArm _ _ _ hwa hfree.2) (freeBrk_noBrk _ hfree.1)
    exact hS.next (ih1 blk k r s0 s3 h hw htk) d rfl b.isSome ((hA.imm hloc hl (open_builder _).1 _).trans (b.close nofun s3 hcl))
  case case36 f w rest idx p top acc pc0 cur hloc a tc rest2 nx st2 hsub hfree hl _ ih2 ih1 =>
    -- { … }
    simp only [Bool.or_eq_true, not_or, Bool.not_eq_true] at hfree
    have hwa : WFS a k r = true := wfs_of_acc h hw _ (.tail _ (.head _))
    have hA := hS.at
    obtain ⟨s2, b⟩ := ih2 _ k r _ _ hsub hwa nofun ((hA.sub idx .mapF [.native "<map-begin>"] nofun (hA.loops_cons _)).start nofun)
    obtain ⟨s3, hcl, d⟩ := did_builder (fo := .mapF) idx tc p.pc nofun (fun s' fl => (close_builder s' fl).2.1) b.did
      (wfs_freeArm_noArm _ _ _ hwa hfree.2) (freeBrk_noBrk _ hfree.1)
    exact hS.next (ih1 blk k r s0 s3 h hw htk) d rfl b.isSome ((hA.imm hloc hl (open_builder _).2.1 _).trans (b.close nofun s3 hcl))
  case case39 f w rest idx p top acc pc0 cur hloc a tc rest2 nx st2 hsub hfree hl _ ih2 ih1 =>
    -- ^{ … ^}
    simp only [Bool.or_eq_true, not_or, Bool.not_eq_true] at hfree
    have hwa : WFS a k r = true := wfs_of_acc h hw _ (.tail _ (.head _))
    have hA := hS.at
    obtain ⟨s2, b⟩ := ih2 _ k r _ _ hsub hwa nofun ((hA.sub idx .tagsF [.native "<vec-begin>"] nofun (hA.loops_cons _)).start nofun)
    obtain ⟨s3, hcl, d⟩ := did_builder (fo := .tagsF) idx tc p.pc nofun (fun s' fl => (close_builder s' fl).2.2) b.did
      (wfs_freeArm_noArm _ _ _ hwa hfree.2) (freeBrk_noBrk _ hfree.1)
    exact hS.next (ih1 blk k r s0 s3 h hw htk) d rfl b.isSome ((hA.imm hloc hl (open_builder _).2.2 _).trans (b.close nofun s3 hcl))
  case case41 f w rest idx p top acc hloc hl _ ih1 =>
    -- break: well-formed only inside a loop
    obtain rfl : k = true := by simpa [WFS] using wfs_of_acc h hw _ (.head _)
    obtain ⟨s1, hi, d⟩ := did_brk hS.at idx
    exact hS.next (ih1 blk true r s0 s1 h hw htk) d rfl rfl (hS.at.imm hloc hl hi _)
  case case42 f w rest idx p top acc hloc hl _ ih1 =>
    -- nil
    exact hS.next (ih1 blk k r s0 _ h hw htk) (hS.at.emit idx _) rfl rfl (hS.at.imm hloc hl (imm_nil _) _)
  case case43 f w rest idx p top acc hloc hl _ ih1 =>
    -- ^hex
    exact hS.next (ih1 blk k r s0 _ h hw htk) (did_base hS.at idx 16) rfl rfl (hS.at.imm hloc hl (imm_base _).1 _)
  case case44 f w rest idx p top acc hloc hl _ ih1 =>
    -- ^dec
    exact hS.next (ih1 blk k r s0 _ h hw htk) (did_base hS.at idx 10) rfl rfl (hS.at.imm hloc hl (imm_base _).2.1 _)
  case case45 f w rest idx p top acc hloc hl _ ih1 =>
    -- ^oct
    exact hS.next (ih1 blk k r s0 _ h hw htk) (did_base hS.at idx 8) rfl rfl (hS.at.imm hloc hl (imm_base _).2.2.1 _)
  case case46 f w rest idx p top acc hloc hl _ ih1 =>
    -- ^bin
    exact hS.next (ih1 blk k r s0 _ h hw htk) (did_base hS.at idx 2) rfl rfl (hS.at.imm hloc hl (imm_base _).2.2.2 _)
  case case47 f w rest idx p top acc hloc hl _ ih1 =>
    -- fmt/prefix
    exact hS.next (ih1 blk k r s0 _ h hw htk) (hS.at.emit idx _) rfl rfl (hS.at.imm hloc hl (imm_fmt _).1 _)
  case case48 f w rest idx p top acc hloc hl _ ih1 =>
    -- fmt/tags
    exact hS.next (ih1 blk k r s0 _ h hw htk) (hS.at.emit idx _) rfl rfl (hS.at.imm hloc hl (imm_fmt _).2.1 _)
  case case49 f w rest idx p top acc hloc hl _ ih1 =>
    -- fmt/upcase
    exact hS.next (ih1 blk k r s0 _ h hw htk) (hS.at.emit idx _) rfl rfl (hS.at.imm hloc hl (imm_fmt _).2.2 _)
  case case52 f w idx p top acc pc0 cur hloc name rest' hnl stB body ts rest nx st hsub hfree hl _ ih2 ih1 =>
    -- : name … ;
    have hpl : p.locals = none := Option.not_isSome_iff_eq_none.mp hnl
    have hwa : WFS body false false = true := by simpa [WFS] using wfs_of_acc h hw _ (.head _)
    obtain ⟨sA, hop, hAA, hclose⟩ := did_defn hS.at idx ts name hpl
    obtain ⟨s2, b⟩ := ih2 _ false false sA sA hsub hwa nofun (hAA.start nofun)
    obtain ⟨s3, hcl, d⟩ := hclose (st2 := st) { st with pc := p.pc, locals := none, funs := (cur + 1, body, ts) :: st.funs } rfl rfl rfl b.did hwa
    exact hS.next (ih1 blk k r s0 s3 h hw htk) d rfl (by rw [hpl]) ((hS.at.named hloc hl hop _).trans (b.close nofun s3 hcl))
  case case55 f w idx p top acc hloc name rest' ls hpl hl _ ih1 =>
    -- local name
    obtain ⟨s1, hi, d⟩ := did_local hS.at idx name hpl
    exact hS.next (ih1 blk k r s0 s1 h hw htk) d rfl (by rw [hpl]; rfl) (hS.at.named hloc hl hi _)
  case case57 f w idx p acc hloc name rest' a hl _ ih1 =>
    -- var name, at top level only
    obtain ⟨rfl, rfl⟩ := htk rfl
    obtain ⟨hfe, hh⟩ := hS.top_flows (fun x hx => wfs_of_acc h hw x (.tail _ hx))
    obtain ⟨s1, hi, d⟩ := did_var hS.at idx name hfe hh
    exact hS.next (ih1 blk false false s0 s1 h hw htk) d rfl rfl (hS.at.named hloc hl hi _)
  case case60 f w idx p top acc hloc name rest' a hla hl _ ih1 =>
    -- ! name
    exact hS.next (ih1 blk k r s0 _ h hw htk) (hS.at.emit (idx + 1) _) rfl rfl
      (hS.at.named hloc hl (by simp [withName, hS.at.m.dict, hla]) _)
  case case63 f w idx p top acc hloc name rest' hl _ ih1 =>
    -- defined name
    exact hS.next (ih1 blk k r s0 _ h hw htk) (hS.at.emit (idx + 1) _) rfl rfl
      (hS.at.named hloc hl (by simp [withName, hS.at.m.dict]) _)
  all_goals cases h

theorem flow_compiler_agrees2 (toks : List Tok) (ps ps' : PState) (st : Stmt) (s0 : CState)
    (hp : parseS toks ps = some (st, ps')) (hm : Match2 ps s0) (hloc0 : ps.locals = none)
    (hfl : s0.flows = []) (hhid : s0.hiddenFlows = 0) (hpc : s0.code.length = ps.pc) :
    ∃ s, compileToks toks 0 s0 = .ok s ∧
      s.code = s0.code ++ (compileS st .none none).map (·.1) ∧
      s.dmap = s0.dmap ++ (compileS st .none none).map (·.2) ∧
      s.dict = ps'.dict ∧ s.heapLen = ps'.heapLen ∧ s.flows = [] := by
  unfold parseS at hp
  cases hb : parseBlock (2 * toks.length + 2) toks 0 ps true [] with
  | none => rw [hb] at hp; simp at hp
  | some blk =>
    rw [hb] at hp
    obtain ⟨stmt, tm, ti, rest, nx, st'⟩ := blk
    cases tm with
    | eof =>
      simp only at hp
      split at hp
      · rename_i hwp
        simp only [Option.some.injEq, Prod.mk.injEq] at hp
        obtain ⟨rfl, rfl⟩ := hp
        have hw : WFS stmt false false = true := by
          simp only [Bool.and_eq_true] at hwp; exact hwp.1
        have hA : At ps false s0 ps.pc := ⟨hm, by unfold LocOK; rw [hloc0, hfl]; rfl, nofun, hpc⟩
        obtain ⟨s', r⟩ := block_sim2 _ toks 0 ps true [] _ false false s0 s0 hb hw (fun _ => ⟨rfl, rfl⟩)
          (hA.start fun _ => ⟨hfl, hhid⟩)
        have d := r.did
        have e : hcL [stmt] = ops (compileS stmt .none none) := by rw [hcL_one, hcode_closed hw]
        have hfl' : s'.flows = [] := by rw [d.flows, e, pend_closed _ _ (no_ops _).1 (no_ops _).2, hfl]; rfl
        refine ⟨s', ?_, by rw [d.code, e, erase_ops], by rw [d.dmap, e, toks_ops], d.m.dict, d.m.heap, hfl'⟩
        rw [r.eof rfl]
        simp [compileToks, hfl']
      · simp at hp
    | _ => simp at hp

/-- `flow_compiler_agrees2` with its hypotheses about `s0` packed into `Match`; `hnb` is not used -/
theorem flow_compiler_agrees (toks : List Tok) (ps ps' : PState) (st : Stmt) (s0 : CState)
    (hp : parseS toks ps = some (st, ps')) (hnb : NoBad ps.dict toks) (hm : Match ps true s0)
    (hpc : s0.code.length = ps.pc) :
    ∃ s, compileToks toks 0 s0 = .ok s ∧
      s.code = s0.code ++ (compileS st .none none).map (·.1) ∧
      s.dmap = s0.dmap ++ (compileS st .none none).map (·.2) ∧
      s.dict = ps'.dict ∧ s.heapLen = ps'.heapLen ∧ s.flows = [] :=
  flow_compiler_agrees2 toks ps ps' st s0 hp ⟨hm.dict, hm.heap, hm.lim, hm.notMeta⟩ hm.plocals (hm.top rfl).1 (hm.top rfl).2 hpc

end Xeh.Structured
