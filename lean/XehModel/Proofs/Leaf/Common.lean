/-
Tie B, bridge theorems — what the per-function modules share: the scope check of the translator's output.
-/
import XehModel.Generated.Leaf
import XehModel.Proofs.LeafFinite

namespace Xeh.LeafBridge
open Xeh.Generated

/-- the de Bruijn indices the translator computed agree with the source names (so `extract.py`'s
    scope resolution is checked, not trusted) -/
theorem src_wellScoped : ∀ f ∈ src_all_fns, f.wellScoped = true := by decide

end Xeh.LeafBridge
