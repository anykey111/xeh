/-
Tie B, bridge theorems (DESIGN §4.2) — `RelativeJump::from_to`, `RelativeJump::calculate` (opcodes.rs).
-/
import XehModel.Proofs.Leaf.Common

namespace Xeh.LeafBridge
open Xeh.MI Xeh.Generated Xeh.LeafSpec

/-- `h1`, `h2`: the distance fits the `i32` of the opcode -/
theorem fromTo_matches_source (p : Profile) (o d : Nat) (ho : o < 2^64) (hd : d < 2^64)
    (h1 : -(2^31) ≤ jumpDistance o d) (h2 : jumpDistance o d < 2^31) :
    evalFn p src_from_to [(o : Int), d] = .ok [jumpDistance o d] := by
  unfold jumpDistance at *
  by_cases h : (o : Int) > d
  · mi_eval src_from_to
    omega
  · mi_eval src_from_to

theorem calculate_matches_source (p : Profile) (rel : Int) (ip : Nat) (hr1 : -(2^31) ≤ rel) (hr2 : rel < 2^31)
    (hip : ip < 2^63) (h0 : 0 ≤ jumpTarget rel ip) (h1 : jumpTarget rel ip < 2^63) :
    evalFn p src_calculate [rel, (ip : Int)] = .ok [jumpTarget rel ip] := by
  unfold jumpTarget at *
  mi_eval src_calculate

/-- the round trip the compiler relies on (`jump_offset` then `fetch_and_run`) -/
theorem fromTo_calculate_source (p : Profile) (o d : Nat) (ho : o < 2^31) (hd : d < 2^31) :
    ∃ rel, evalFn p src_from_to [(o : Int), d] = .ok [rel] ∧
           evalFn p src_calculate [rel, (o : Int)] = .ok [(d : Int)] := by
  have hj : jumpDistance o d = (d : Int) - o := rfl
  have ht : jumpTarget (jumpDistance o d) o = d := by unfold jumpTarget; omega
  refine ⟨jumpDistance o d, ?_, ?_⟩
  · exact fromTo_matches_source p o d (by omega) (by omega) (by omega) (by omega)
  · rw [calculate_matches_source p _ o (by omega) (by omega) (by omega) (by omega) (by omega), ht]

example : evalFn .debug src_from_to [7, 7] = .ok [0] := by decide +kernel
/-- `calculate` at the top of the `isize` range panics in a debug build, while a release build wraps -/
example : evalFn .debug src_calculate [1, 2^63 - 1] = .panic "attempt to add with overflow" := by decide +kernel
example : evalFn .release src_calculate [1, 2^63 - 1] = .ok [2^63] := by decide +kernel

end Xeh.LeafBridge
