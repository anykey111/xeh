/-
The VM reads the current context's ip, stack floors and mode; it never reads where the context's code, pending flows and
dictionary entries begin, nor the stack height it was opened at (`csLen`, `fsLen`, `diLen`, `dsOpen`: bookkeeping for
`context_close`). `normC` forgets those four fields and nothing else. Machines that agree after `normC` compute the same
outcome through every primitive, native word, opcode, `step`, `next` and `run`, and agree after `normC` again.
-/
import XehModel.Proofs.VMCong

namespace Xeh.Mach

def normC (m : Mach) : Mach := { m with ctx := { m.ctx with csLen := 0, fsLen := 0, diLen := 0, dsOpen := 0 } }

namespace NormC

theorem cong : StepCong fun a b => normC a = normC b where
  view := congrArg seen
  log s := congrArg fun m : Mach => m.logStep s
  setDs x := congrArg fun m : Mach => { m with ds := x }
  setRs x := congrArg fun m : Mach => { m with rs := x }
  setLoops x := congrArg fun m : Mach => { m with loops := x }
  setSpecial x := congrArg fun m : Mach => { m with special := x }
  setHeap x := congrArg fun m : Mach => { m with heap := x }
  out s := congrArg fun m : Mach => { m with out := m.out ++ s }
  stop := congrArg fun m : Mach => { m with aboutToStop := true }
  setIp n := congrArg fun m : Mach => m.setIp n
  nextIp := congrArg nextIp
  ip := congrArg fun m : Mach => m.ctx.ip
  code := congrArg Mach.code
  dict := congrArg Mach.dict
  setCode c := congrArg fun m : Mach => { m with code := c }
  insnLimit := congrArg Mach.insnLimit
  tick := congrArg fun m : Mach => { m with meter := m.meter + 1 }
  meter h := .inr (congrArg Mach.meter h :)

theorem of_ctx (m : Mach) (c : Ctx) (h : c.ip = m.ctx.ip ∧ c.ssPtr = m.ctx.ssPtr ∧ c.mode = m.ctx.mode ∧ c.dsLen = m.ctx.dsLen ∧
    c.rsLen = m.ctx.rsLen ∧ c.lsLen = m.ctx.lsLen) : normC { m with ctx := c } = normC m := by
  obtain ⟨h1, h2, h3, h4, h5, h6⟩ := h
  unfold normC
  dsimp only
  rw [h1, h2, h3, h4, h5, h6]

theorem run_sim (np : String → Option Prog) (fuel : Nat) : ∀ a b : Mach, normC a = normC b →
    RunBy (fun a b => normC a = normC b) (run np fuel a) (run np fuel b) := fun _ _ => cong.run np fuel

theorem eq_of_normC (a b : Mach) (h : normC a = normC b) (h0 : a.ctx.csLen = b.ctx.csLen ∧ a.ctx.fsLen = b.ctx.fsLen ∧
    a.ctx.diLen = b.ctx.diLen ∧ a.ctx.dsOpen = b.ctx.dsOpen) : a = b := by
  obtain ⟨g1, g2, g3, g4⟩ := h0
  -- a machine is what `normC` keeps of it together with the four fields it forgets
  have e : ∀ m : Mach, m = { normC m with ctx := { (normC m).ctx with
      csLen := m.ctx.csLen, fsLen := m.ctx.fsLen, diLen := m.ctx.diLen, dsOpen := m.ctx.dsOpen } } := fun _ => rfl
  rw [e a, e b, h, g1, g2, g3, g4]

local macro "sim_bind " f:term ", " ea:term ", " eb:term " with " ma:ident mb:ident h2:ident : tactic => `(tactic|
  (have hs := $f
   revert hs
   generalize $ea = ra
   generalize $eb = rb
   obtain ⟨oa, $ma:ident⟩ := ra
   obtain ⟨ob, $mb:ident⟩ := rb
   rintro ⟨h1, $h2:ident⟩
   simp only at h1 $h2:ident
   subst h1
   cases oa <;> try exact ⟨rfl, $h2⟩))

end NormC

end Xeh.Mach
