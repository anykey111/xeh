/-
C13 — tags never change what a value does.

* `strip : Cell → Cell` (Model/Tags.lean) removes every tag at every depth.
* `tag_blind_*`: for every word of arith.rs and every collection / type-predicate word except the
  printing words `concat join` (which honour the `#fmt` tag) and the five tag words, running the word on
  a stack and on the stripped stack gives the same outcome up to tags: both succeed or both fail, a
  failure is the same error variant with the same payload up to tags, and the result stacks are equal
  after stripping — which is stronger than `equal?` of the results (`equal?` ignores tags; the two differ
  only on NaN / host objects, which are not `equal?` to themselves). Hypothesis `StackWF`: tags do not
  nest directly (`with_tags` stores `value()`), true of every value the implementation can build.
  Stack words (`dup drop swap rot over depth`), `I J K`, `equal? assert assert-eq` live in
  Model/Words.lean and are not covered here.
* `fresh_untagged`: a computing word pushes a result without a tag. Exceptions, by design of the code
  (they return an operand / a stored element as it is): `>real` and `>int` when no conversion is needed,
  `get nth unbox`, and the stack words.
* `tags_map_laws_*`: the tag words behave as a map attached to the value. A tag map is an `Xmap`, so
  `get-tag` after `insert-tag` is subject to the C12 finding; those two laws are `_partial` under the same
  decidable guard `KeysComparable` (all tag keys and the probe are ints, or all are strings).
-/
import XehModel.Proofs.TagBlind
import XehModel.Proofs.TagFresh
import XehModel.Proofs.ArithGood
import XehModel.Props.C12

namespace Xeh.C13
open Xeh Prog Coll

theorem tag_blind_arith : ∀ e ∈ arithTable, Blind e.2 := by
  simp only [arithTable, List.forall_mem_cons, wordAdd, wordSub, wordMul, wordMin, wordMax, blind_arithOpsReal,
    blind_arithOpsInt, blind_wordDiv, blind_wordRem, blind_wordNeg, blind_wordAbs, blind_wordCmp, blind_wordLogic,
    blind_wordNot, blind_wordBnot, blind_wordRound, blind_wordIntoReal, blind_wordIntoInt, blind_wordNumTest,
    blind_wordPopcnt, and_self, List.not_mem_nil, false_imp_iff, implies_true]

/-- the printing words that honour the formatting tag -/
def fmtWords : List String := ["concat", "join"]

theorem tag_blind_coll : ∀ e ∈ collTable, e.1 ∉ fmtWords → Blind e.2 := by
  unfold collTable fmtWords
  simp only [List.forall_mem_cons]
  exact ⟨fun _ => blind_wordInsert, fun _ => blind_wordRemove, fun _ => blind_wordGet, fun _ => blind_wordLength,
    fun _ => blind_wordNth, fun _ => blind_wordSlice, fun h => absurd (by simp) h, fun h => absurd (by simp) h,
    fun _ => blind_wordSort, fun _ => blind_wordReverse, fun _ => blind_wordPush, fun _ => blind_wordCollect,
    fun _ => blind_wordUnbox,
    fun _ => blind_wordIs _ isNil_strip, fun _ => blind_wordIs _ isBool_strip, fun _ => blind_wordIs _ isInt_strip,
    fun _ => blind_wordIs _ isReal_strip, fun _ => blind_wordIs _ isStr_strip, fun _ => blind_wordIs _ isBitstr_strip,
    fun _ => blind_wordIs _ isVec_strip, fun e he => by simp at he⟩

/-- the statement of the property: two stacks that differ only in tags (any tagging of any argument at
    any depth, tags on tags included) give outcomes that differ only in tags -/
theorem tag_blind (p : Prog) (hp : Blind p) (s s' : List Cell) (hs : StackWF s) (hs' : StackWF s')
    (heq : s.map Cell.strip = s'.map Cell.strip) :
    stripOutcome (p.runStack 0 s) = stripOutcome (p.runStack 0 s') := by
  rw [hp s hs, hp s' hs', heq]

/-- in particular: success and failure agree -/
theorem tag_blind_same_success (p : Prog) (hp : Blind p) (s : List Cell) (hs : StackWF s) :
    (∃ r, p.runStack 0 s = .ok r) ↔ (∃ r, p.runStack 0 (s.map Cell.strip) = .ok r) := by
  have h := hp s hs
  cases h1 : p.runStack 0 s <;> cases h2 : p.runStack 0 (s.map Cell.strip) <;> rw [h1, h2] at h <;>
    simp [stripOutcome] at h ⊢

/-- the words of `collTable` really are what the driver looks up (for `arithTable`: `C09.arithWord_mem`) -/
theorem collWord_mem (w : String) (p : Prog) (h : collWord w = some p) : (w, p) ∈ collTable :=
  mem_of_lookup h

/-- the words that may hand back an operand or a stored element unchanged -/
def passThroughWords : List String := [">real", ">int", "get", "nth", "unbox"]

theorem fresh_untagged_arith : ∀ e ∈ arithTable, e.1 ∉ passThroughWords →
    ∀ (h : Nat) (s r : List Cell), e.2.runStack h s = .ok r → ∃ c rest, r = c :: rest ∧ c.tags = none := by
  suffices h : ∀ e ∈ arithTable, e.1 ∉ passThroughWords → Quotes False 2 [] e.2 from
    fun e he hn h' s => (h e he hn h' s).2.resolve_left id
  unfold arithTable passThroughWords
  simp only [List.forall_mem_cons]
  exact ⟨fun _ => good_arithOpsReal _ _, fun _ => good_arithOpsReal _ _, fun _ => good_arithOpsReal _ _,
    fun _ => good_wordDiv, fun _ => good_wordRem, fun _ => good_wordNeg, fun _ => good_wordAbs,
    fun _ => good_wordCmp _, fun _ => good_wordCmp _, fun _ => good_wordCmp _,
    fun _ => good_wordCmp _, fun _ => good_wordCmp _, fun _ => good_wordCmp _,
    fun _ => good_wordLogic _, fun _ => good_wordLogic _, fun _ => good_wordLogic _, fun _ => good_wordNot,
    fun _ => good_arithOpsInt _, fun _ => good_arithOpsInt _, fun _ => good_arithOpsInt _,
    fun _ => good_unInt _, fun _ => good_arithOpsInt _, fun _ => good_arithOpsInt _,
    fun _ => good_wordRound, fun _ => good_arithOpsReal _ _, fun _ => good_arithOpsReal _ _,
    fun h => absurd (by simp) h, fun h => absurd (by simp) h,
    fun _ => good_wordNumTest _ _, fun _ => good_wordNumTest _ _, fun _ => good_wordNumTest _ _,
    fun _ => good_unInt _, fun e he => by simp at he⟩

theorem fresh_untagged_coll : ∀ e ∈ collTable, e.1 ∉ passThroughWords →
    ∀ (h : Nat) (s r : List Cell), e.2.runStack h s = .ok r → ∃ c rest, r = c :: rest ∧ c.tags = none := by
  suffices h : ∀ e ∈ collTable, e.1 ∉ passThroughWords → Fresh e.2 from h
  unfold collTable passThroughWords
  simp only [List.forall_mem_cons]
  exact ⟨fun _ => fresh_wordInsert, fun _ => fresh_wordRemove, fun h => absurd (by simp) h,
    fun _ => fresh_wordLength, fun h => absurd (by simp) h, fun _ => fresh_wordSlice,
    fun _ => fresh_wordConcat, fun _ => fresh_wordJoin, fun _ => fresh_wordSort,
    fun _ => fresh_wordReverse, fun _ => fresh_wordPush, fun _ => fresh_wordCollect,
    fun h => absurd (by simp) h,
    fun _ => fresh_wordIs _, fun _ => fresh_wordIs _, fun _ => fresh_wordIs _, fun _ => fresh_wordIs _,
    fun _ => fresh_wordIs _, fun _ => fresh_wordIs _, fun _ => fresh_wordIs _, fun e he => by simp at he⟩

/-- the exceptions are real: `>int` of a tagged int and `nth` of a tagged element return them as they are -/
theorem fresh_untagged_exceptions :
    wordIntoInt.runStack 0 [.tagged (.int 5) .nil] = .ok [.tagged (.int 5) .nil] ∧
    wordNth.runStack 0 [.int 0, .vec (.cons (.tagged (.int 5) .nil) .nil)] = .ok [.tagged (.int 5) .nil] := by
  decide

variable (c k x : Cell)

/-- attaching, replacing or removing tags never alters the value -/
theorem value_with_tags (t : PairList) : (c.withTags t).value = c.value := rfl
theorem value_insert_tag : (c.insertTag k x).value = c.value := by
  unfold Cell.insertTag; cases c.tags <;> rfl
theorem value_remove_tag : (c.removeTag k).value = c.value := by
  unfold Cell.removeTag; cases c.tags <;> rfl

/-- `with-tags` attaches exactly the given map, `tags` reads it back; an untagged value has no tags -/
theorem tags_with_tags (t : PairList) : (c.withTags t).tags = some t := rfl

theorem tags_word (s : List Cell) (h : Nat) (t : PairList) (hh : h ≤ s.length) :
    wordTags.runStack h (c.withTags t :: s) = .ok (.map t :: s) := by
  unfold wordTags; exact runStack_pop_cons _ _ _ _ hh

theorem tags_word_untagged (s : List Cell) (h : Nat) (hc : c.tags = none) (hh : h ≤ s.length) :
    wordTags.runStack h (c :: s) = .ok (.nil :: s) := by
  unfold wordTags; rw [runStack_pop_cons _ _ _ _ hh, hc]; rfl

theorem with_tags_word (s : List Cell) (h : Nat) (tc : Cell) (t : PairList) (ht : tc.value = .map t) (hh : h ≤ s.length) :
    wordWithTags.runStack h (tc :: c :: s) = .ok (c.withTags t :: s) := by
  unfold wordWithTags
  rw [runStack_pop_cons _ _ _ _ (Nat.le_succ_of_le hh), Cell.toMap, ht]
  exact runStack_pop_cons _ _ _ _ hh

/-- the tag words are the map operations on the attached map -/
theorem insert_tag_word (s : List Cell) (h : Nat) (hh : h ≤ s.length) :
    wordInsertTag.runStack h (k :: x :: c :: s) = .ok (c.insertTag k x :: s) := by
  unfold wordInsertTag
  rw [runStack_pop_cons _ _ _ _ (Nat.le_succ_of_le (Nat.le_succ_of_le hh))]; exact runStack_pop2 hh ..
theorem remove_tag_word (s : List Cell) (h : Nat) (hh : h ≤ s.length) :
    wordRemoveTag.runStack h (k :: c :: s) = .ok (c.removeTag k :: s) := by
  unfold wordRemoveTag; exact runStack_pop2 hh ..
theorem get_tag_word (s : List Cell) (h : Nat) (hh : h ≤ s.length) :
    wordGetTag.runStack h (k :: c :: s) = .ok ((c.getTag k).getD .nil :: s) := by
  unfold wordGetTag; exact runStack_pop2 hh ..

theorem top_putFmt (p : Cell → Prop) [DecidablePred p] (f : Cell → Nat) (s : List Cell) (h : Nat) (hh : h ≤ s.length) :
    (Prog.top fun v => if p v then putFmt (f v) else .done).runStack h (c :: s) = .ok (c :: s) ∨
    ∃ fl : Nat, (Prog.top fun v => if p v then putFmt (f v) else .done).runStack h (c :: s) =
      .ok (c.insertTag fmtKey (.int (fl : Nat)) :: s) := by
  rw [runStack_top_cons _ _ _ _ hh]
  split
  · exact .inr ⟨f c, runStack_pop_cons _ _ _ _ hh⟩
  · exact .inl rfl

/-- **the formatting words** (`^hex ^dec ^oct ^bin` = `<fmt-base>` with the base pushed by the compiler; `fmt/prefix`
    `fmt/tags` `fmt/upcase` = one bit each) leave the value on top as it is or hand it back with ONE tag inserted,
    `#fmt`; the value under the tags is the same, and by `insert_tag_word`'s laws every other tag stays (seeded change
    C13/13 builds a fresh tag map instead) -/
theorem fmt_base_word (n : Nat) (hn : (Cell.int (n : Nat)).toUsize = .ok n) (s : List Cell) (h : Nat) (hh : h ≤ s.length) :
    wordFmtBase.runStack h (.int (n : Nat) :: c :: s) = .ok (c :: s) ∨
    ∃ fl : Nat, wordFmtBase.runStack h (.int (n : Nat) :: c :: s) = .ok (c.insertTag fmtKey (.int (fl : Nat)) :: s) := by
  unfold wordFmtBase
  rw [runStack_pop_cons _ _ _ _ (Nat.le_succ_of_le hh), hn]
  exact top_putFmt c _ _ s h hh

theorem fmt_bit_word (k : Nat) (t : Bool) (s : List Cell) (h : Nat) (hh : h ≤ s.length) :
    (wordFmtBit k).runStack h (.flag t :: c :: s) = .ok (c :: s) ∨
    ∃ fl : Nat, (wordFmtBit k).runStack h (.flag t :: c :: s) = .ok (c.insertTag fmtKey (.int (fl : Nat)) :: s) := by
  unfold wordFmtBit
  rw [runStack_pop_cons _ _ _ _ (Nat.le_succ_of_le hh)]
  exact top_putFmt c _ _ s h hh

/-- … and the value under the tags is untouched -/
theorem fmt_words_keep_the_value (fl : Nat) : (c.insertTag fmtKey (.int (fl : Nat))).value = c.value := value_insert_tag _ _ _

/-- the tag map of a cell (empty for an untagged one) -/
def tagMap (c : Cell) : PairList := c.tags.getD .nil

/-- the tag words are `lookup`, `insert`, `erase` on the tag map, so their laws are C12's map laws at `tagMap c` -/
theorem getTag_eq : c.getTag k = (tagMap c).lookup k := by
  unfold Cell.getTag tagMap; cases c.tags <;> rfl
theorem getTag_insertTag (k' : Cell) : (c.insertTag k x).getTag k' = ((tagMap c).insert k x).lookup k' := by
  unfold Cell.insertTag tagMap; cases c.tags <;> rfl
theorem getTag_removeTag (k' : Cell) : (c.removeTag k).getTag k' = ((tagMap c).erase k).lookup k' := by
  unfold Cell.removeTag tagMap; cases c.tags <;> rfl

/- full: theorem get_insert_tag : (c.insertTag k x).getTag k = some x   (refuted for mixed key types, C12) -/
theorem tags_map_laws_get_insert_partial (hg : KeysComparable (tagMap c) [k]) :
    (c.insertTag k x).getTag k = some x :=
  (getTag_insertTag c k x k).trans (C12.get_insert_same_partial _ k x hg)

theorem tags_map_laws_get_insert_other_partial (k' : Cell) (hg : KeysComparable (tagMap c) [k, k'])
    (hne : Cell.beq k' k = false) : (c.insertTag k x).getTag k' = c.getTag k' := by
  rw [getTag_insertTag, getTag_eq]; exact C12.get_insert_other_partial _ k k' x hg hne

theorem tags_map_laws_get_remove_partial (hs : SortedKeys (tagMap c).toList) (hg : KeysComparable (tagMap c) [k]) :
    (c.removeTag k).getTag k = none :=
  (getTag_removeTag c k k).trans (C12.get_remove_same_partial _ k hs hg)

/-! ### equality itself — what `equal?`, `assert-eq`, map lookups and the `case … of` instruction compare with -/

/-- `PartialEq for Cell` looks at the values: attaching a tag map to either operand, or replacing the one it carries,
    changes no comparison (at the top level by this theorem, inside vectors and maps because the comparison of their
    elements is this same function) -/
theorem equality_ignores_tags (a b : Cell) (ta tb : PairList) :
    Cell.beq (a.withTags ta) b = Cell.beq a b ∧ Cell.beq a (b.withTags tb) = Cell.beq a b ∧
    Cell.beq (a.withTags ta) (b.withTags tb) = Cell.beq a b := by
  simp only [beq_eq_beqVV, value_with_tags, and_self]

/-- the `case … of` instruction (`Opcode::CaseOf`) takes its branch by that comparison alone: the selector and the
    candidate are popped / looked at as they are and handed to `Cell.beq`, so whether either carries tags cannot change
    which arm is taken (a discriminant test in front of the comparison — seeded change C13/12 — is what this rules out
    in the model; the correspondence holds the code to the model) -/
theorem case_of_compares_values (sel cand : Cell) (ts tc : PairList) :
    Cell.beq (cand.withTags tc) (sel.withTags ts) = Cell.beq cand sel :=
  (equality_ignores_tags cand sel tc ts).2.2

/-- `|02| open-bitstr u8` (a read result carries its `len` tag) against the literal `2` -/
example : Cell.beq ((Cell.int 2).withTags (.cons (.str ['l','e','n']) (.int 8) .nil)) (.int 2) = true := by
  simp [Cell.beq, Cell.beqV, Cell.beqVV, Cell.withTags, Cell.value]

example : StackWF [.tagged (.int 1) (.cons (.str ['k']) (.tagged (.int 2) .nil) .nil), .vec (.cons (.tagged .nil .nil) .nil)] := by
  intro c hc; simp at hc; rcases hc with rfl | rfl <;> simp [Cell.TagWF, CellList.TagWF, PairList.TagWF, Cell.tags]
example : ("sort", wordSort) ∈ collTable ∧ "sort" ∉ fmtWords := by simp [collTable, fmtWords]
example : wordAdd.runStack 0 [.tagged (.int 2) (.cons (.str ['#', 'f', 'm', 't']) (.int 16) .nil), .int 1] = .ok [.int 3] := by decide
example : KeysComparable (tagMap (.tagged (.int 1) (.cons (.str ['a']) .nil .nil))) [.str ['#', 'f', 'm', 't']] := by decide
example : (Cell.int 7).insertTag (.str ['k']) (.flag true) = .tagged (.int 7) (.cons (.str ['k']) (.flag true) .nil) := by decide

end Xeh.C13
