/-
What it means for `Cell.cmp` to be a lawful order on a set of cells (`CmpLawfulOn`), and that it is one on
int cells and on string cells (tags ignored) because there it is core's `compare` of the payload.
-/
import XehModel.Model.Collections

namespace Xeh

/-- what rpds and `slice::sort` require of `Ord`, on the cells satisfying `P`, with the language's equality as the
    equivalence -/
structure CmpLawfulOn (P : Cell → Prop) : Prop where
  oriented : ∀ a b, P a → P b → Cell.cmp a b = (Cell.cmp b a).swap
  le_trans : ∀ a b c, P a → P b → P c → Cell.cmp a b ≠ .gt → Cell.cmp b c ≠ .gt → Cell.cmp a c ≠ .gt
  eq_iff_beq : ∀ a b, P a → P b → (Cell.cmp a b = .eq ↔ Cell.beq a b = true)

/-- `Cell.cmp` between cells of `P` -/
abbrev cmpOn (P : Cell → Prop) (a b : Subtype P) : Ordering := Cell.cmp a b

namespace CmpLawfulOn
open Std
variable {P : Cell → Prop} (L : CmpLawfulOn P)
include L

/-- so the order lemmas below are core's, brought back with the membership proofs as arguments -/
theorem transCmp : TransCmp (cmpOn P) where
  eq_swap {a b} := L.oriented a b a.2 b.2
  isLE_trans {a b c} := by
    simp only [← Ordering.ne_gt_iff_isLE]; exact L.le_trans a b c a.2 b.2 c.2

theorem refl {a} (ha : P a) : Cell.cmp a a = .eq :=
  have := L.transCmp; ReflCmp.compare_self (cmp := cmpOn P) (a := ⟨a, ha⟩)

theorem gt_of_lt {a b} (ha : P a) (hb : P b) (h : Cell.cmp a b = .lt) : Cell.cmp b a = .gt :=
  have := L.transCmp; OrientedCmp.gt_of_lt (cmp := cmpOn P) (a := ⟨a, ha⟩) (b := ⟨b, hb⟩) h

theorem lt_of_gt {a b} (ha : P a) (hb : P b) (h : Cell.cmp a b = .gt) : Cell.cmp b a = .lt :=
  have := L.transCmp; OrientedCmp.lt_of_gt (cmp := cmpOn P) (a := ⟨a, ha⟩) (b := ⟨b, hb⟩) h

theorem ne_of_beq_false {a b} (ha : P a) (hb : P b) (h : Cell.beq a b = false) : Cell.cmp a b ≠ .eq :=
  fun he => by rw [(L.eq_iff_beq a b ha hb).mp he] at h; cases h

theorem beq_false_of_ne {a b} (ha : P a) (hb : P b) (h : Cell.cmp a b ≠ .eq) : Cell.beq a b = false :=
  Bool.eq_false_iff.mpr fun hb' => h ((L.eq_iff_beq a b ha hb).mpr hb')

theorem lt_of_le_of_lt {a b c} (ha : P a) (hb : P b) (hc : P c)
    (h1 : Cell.cmp a b ≠ .gt) (h2 : Cell.cmp b c = .lt) : Cell.cmp a c = .lt :=
  have := L.transCmp
  TransCmp.lt_of_isLE_of_lt (cmp := cmpOn P) (a := ⟨a, ha⟩) (b := ⟨b, hb⟩) (c := ⟨c, hc⟩)
    (Ordering.ne_gt_iff_isLE.mp h1) h2

theorem lt_trans {a b c} (ha : P a) (hb : P b) (hc : P c)
    (h1 : Cell.cmp a b = .lt) (h2 : Cell.cmp b c = .lt) : Cell.cmp a c = .lt :=
  have := L.transCmp; TransCmp.lt_trans (cmp := cmpOn P) (a := ⟨a, ha⟩) (b := ⟨b, hb⟩) (c := ⟨c, hc⟩) h1 h2

theorem gt_trans {a b c} (ha : P a) (hb : P b) (hc : P c)
    (h1 : Cell.cmp a b = .gt) (h2 : Cell.cmp b c = .gt) : Cell.cmp a c = .gt :=
  have := L.transCmp; TransCmp.gt_trans (cmp := cmpOn P) (a := ⟨a, ha⟩) (b := ⟨b, hb⟩) (c := ⟨c, hc⟩) h1 h2

theorem cmp_congr_left {a b c} (ha : P a) (hb : P b) (hc : P c)
    (h : Cell.cmp a b = .eq) : Cell.cmp a c = Cell.cmp b c :=
  have := L.transCmp; TransCmp.congr_left (cmp := cmpOn P) (a := ⟨a, ha⟩) (b := ⟨b, hb⟩) (c := ⟨c, hc⟩) h

theorem cmp_congr_right {a b c} (ha : P a) (hb : P b) (hc : P c)
    (h : Cell.cmp a b = .eq) : Cell.cmp c a = Cell.cmp c b :=
  have := L.transCmp; TransCmp.congr_right (cmp := cmpOn P) (a := ⟨c, hc⟩) (b := ⟨a, ha⟩) (c := ⟨b, hb⟩) h

end CmpLawfulOn

def IsIntCell (c : Cell) : Prop := ∃ i, c.value = .int i
def IsStrCell (c : Cell) : Prop := ∃ s, c.value = .str s

theorem cmp_int {a b : Cell} {x y : Int} (ha : a.value = .int x) (hb : b.value = .int y) :
    Cell.cmp a b = compare x y := by
  simp [Cell.cmp, Cell.partialCmp, ha, hb]

theorem cmp_str {a b : Cell} {x y : List Char} (ha : a.value = .str x) (hb : b.value = .str y) :
    Cell.cmp a b = strCmp x y := by
  simp [Cell.cmp, Cell.partialCmp, ha, hb]

/-- `beq` looks through one tag level on each side, like `value()` -/
theorem beq_eq_beqVV (a b : Cell) : Cell.beq a b = Cell.beqVV a.value b.value := by
  have h1 : Cell.beq a b = Cell.beqV a.value b := by cases a <;> simp only [Cell.beq, Cell.value]
  have h2 : Cell.beqV a.value b = Cell.beqVV a.value b.value := by cases b <;> simp only [Cell.beqV, Cell.value]
  rw [h1, h2]

theorem beq_eq_beqVV_value (a b : Cell) (ha : a.value.tags = none) (hb : b.value.tags = none) :
    Cell.beq a b = Cell.beqVV a.value b.value := beq_eq_beqVV a b

theorem beq_int {a b : Cell} {x y : Int} (ha : a.value = .int x) (hb : b.value = .int y) :
    Cell.beq a b = (x == y) := by
  rw [beq_eq_beqVV, ha, hb, Cell.beqVV]

theorem beq_str {a b : Cell} {x y : List Char} (ha : a.value = .str x) (hb : b.value = .str y) :
    Cell.beq a b = (x == y) := by
  rw [beq_eq_beqVV, ha, hb, Cell.beqVV]

theorem strCmp_eq_compare : ∀ x y : List Char, strCmp x y = compare x y
  | [], [] => rfl
  | [], _ :: _ => rfl
  | _ :: _, [] => rfl
  | a :: as, b :: bs => by
    rw [strCmp, List.compare_cons_cons, ← strCmp_eq_compare as bs]
    show _ = (compareOfLessAndEq a b).then _
    unfold compareOfLessAndEq
    have hlt : ∀ c d : Char, c < d ↔ c.toNat < d.toNat := fun _ _ => Iff.rfl
    by_cases h1 : a.toNat < b.toNat
    · rw [if_pos h1, if_pos ((hlt a b).mpr h1)]; rfl
    · rw [if_neg h1, if_neg (mt (hlt a b).mp h1)]
      by_cases h2 : b.toNat < a.toNat
      · rw [if_pos h2, if_neg (by rintro rfl; omega)]; rfl
      · rw [if_neg h2, if_pos (Char.ext (UInt32.toNat_inj.mp
          (Nat.le_antisymm (Nat.le_of_not_lt h2) (Nat.le_of_not_lt h1))))]; rfl

open Std in
theorem cmp_lawful_of_compare {α} [Ord α] [TransOrd α] [LawfulEqOrd α] [BEq α] [LawfulBEq α] (mk : α → Cell)
    (hcmp : ∀ {a b x y}, a.value = mk x → b.value = mk y → Cell.cmp a b = compare x y)
    (hbeq : ∀ {a b x y}, a.value = mk x → b.value = mk y → Cell.beq a b = (x == y)) :
    CmpLawfulOn fun c => ∃ x, c.value = mk x where
  oriented := by
    rintro a b ⟨x, ha⟩ ⟨y, hb⟩
    rw [hcmp ha hb, hcmp hb ha]; exact OrientedCmp.eq_swap
  le_trans := by
    rintro a b c ⟨x, ha⟩ ⟨y, hb⟩ ⟨z, hc⟩
    rw [hcmp ha hb, hcmp hb hc, hcmp ha hc]
    simp only [ne_eq, Ordering.ne_gt_iff_isLE]; exact TransCmp.isLE_trans
  eq_iff_beq := by
    rintro a b ⟨x, ha⟩ ⟨y, hb⟩
    rw [hcmp ha hb, hbeq ha hb, compare_eq_iff_eq, beq_iff_eq]

theorem cmp_lawful_int : CmpLawfulOn IsIntCell := cmp_lawful_of_compare .int cmp_int beq_int

theorem cmp_lawful_str : CmpLawfulOn IsStrCell :=
  cmp_lawful_of_compare .str (fun ha hb => (cmp_str ha hb).trans (strCmp_eq_compare _ _)) beq_str

end Xeh
