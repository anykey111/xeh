/-
C08 — no source text, input or API call sequence can crash the interpreter.

STATUS: **partial**. The property as stated quantifies over every word, every source text and
every API call sequence of the real interpreter, including host-level failure modes (host stack
exhaustion, allocator aborts, panics inside dependencies). Those are outside any model; they are
reached only by the implementation-side exploration of harness/src/props/c08.rs (search, not
proof). What *is* proved here is panic-freedom of the functions that have an executable model,
collected layer by layer. Where a layer's functions return an `Outcome` the theorems are stated with the
predicate `NoPanic`; the VM, reverse-step and session theorems say `≠ .panic …` of their own result types.
Panics are values of the model (`Outcome.panic site`, also
used for every `unwrap`/index/overflow-check site of the modelled Rust code), so `NoPanic` is a
real statement about the modelled code paths in both build profiles.

Full statement (NOT claimed; kept visible):
  for every interpreter state `xs` reachable through the public API with instruction and stack
  limits set, every source text `t` and every API call `f ∈ {eval, compile, run, next, rnext,
  pretty_error, last_err_location, format_cell, format_cell_safe, fmt_opcode, set_binary_input}`:
  `f xs t` returns a result or an error value — the process never panics, aborts or traps.
Missing for the full statement: models of the layers that are not collected below, and anything host-level.

Layers collected:
  * L3 arithmetic (Model/Arith.lean): every word of `arithTable` (the 32 words of arith.rs except
    `random`), every data stack, hidden prefix 0.
  * L4 the VM (Model/VM.lean) over the whole modelled word table (96 entries, 94 distinct names: stack, control helpers,
    arithmetic, collections, tags, text encodings, printing): `vm_never_panics` — for EVERY machine state
    (well formed or not), every program, every number of steps, `State::run` answers a result or an error
    value; the only `panic` values the model can produce are its own two gap markers (a word the table
    lacks, a value the printing model does not cover), which the driver reports as `unsupported`.
    `vm_step_panics_only_in_words` is the same for one `fetch_and_run` and an arbitrary word table.
  * L7 whole sources (Model/Session.lean): `source_never_panics` — `build_from_source` (what `eval`, `compile` and a
    REPL line do) on EVERY session, in every mode, with every token list — meta blocks at any depth, `const`,
    definitions, unbalanced anything — answers built / rejected / failed, never `panic`; `session_run_never_panics`
    for `run`. This is `vm_never_panics` carried through the session layer: the VM's two gap markers begin with
    "model:" (`Session.gap_marker`, a fact about `String.startsWith` on an interpolated message) and are answered
    `unsupported`; the session layer's own panic branches are unreachable. Because it holds for every session it
    holds for every history of calls.
  * L1 bit strings (Model/Bitstr.lean, where every index / `unwrap` / subtraction site of bitstr.rs is a
    `panic` value): on a well-formed handle no operation panics (`noPanic_bitstr`, from the C04 refinement
    theorems, which state `= .ok …`).
  * token location (`pretty_error` / `last_err_location`): `noPanic_token_location` (C17loc).
  * Z85 decoding: the crate function does panic (`C18.z85_crate_panics`); behind the guard of the glue no
    text reaches that path (`noPanic_z85`).
  * The lexer and the compiler models return `Except` / `CRes`, types without a panic value: for them
    panic-freedom is not a theorem but the content of the correspondence (every implementation answer,
    including `panic`, is compared with a model that cannot answer `panic`).
-/
import XehModel.Props.C09
import XehModel.Props.C04
import XehModel.Props.C17loc
import XehModel.Props.C18
import XehModel.Proofs.SessionNoPanic
import XehModel.Driver.C08

namespace Xeh.C08
open Xeh Prog

/-- the outcome of a modelled function is a result or an error value, never a panic -/
def NoPanic {α : Type} (o : Outcome α) : Prop := ∀ site, o ≠ .panic site

theorem noPanic_ok {α : Type} (a : α) : NoPanic (Outcome.ok a) := fun _ h => by cases h
theorem noPanic_err {α : Type} (e : Xerr) : NoPanic (Outcome.err e : Outcome α) := fun _ h => by cases h

/-- `NoPanic` says exactly: the outcome is `ok _` or `err _` -/
theorem noPanic_iff {α : Type} (o : Outcome α) : NoPanic o ↔ (∃ a, o = .ok a) ∨ (∃ e, o = .err e) := by
  constructor
  · intro h
    cases o with
    | ok a => exact .inl ⟨a, rfl⟩
    | err e => exact .inr ⟨e, rfl⟩
    | panic s => exact absurd rfl (h s)
  · rintro (⟨a, rfl⟩ | ⟨e, rfl⟩)
    · exact noPanic_ok a
    · exact noPanic_err e

/-! ### layer L3 — arithmetic, comparison, logic and bitwise words (arith.rs) -/
section Arith

/-- every arithmetic word, on every data stack, returns a stack or an error value -/
theorem noPanic_arith : ∀ e ∈ arithTable, ∀ st : List Cell, NoPanic (e.2.runStack 0 st) :=
  fun e he st => (C09.type_error_payload_and_no_panic e he st).1

/-- the same, phrased for the lookup the driver (and therefore the correspondence check) uses -/
theorem noPanic_arith_word (w : String) (p : Prog) (hw : arithWord w = some p) (st : List Cell) :
    NoPanic (p.runStack 0 st) :=
  noPanic_arith (w, p) (C09.arithWord_mem w p hw) st

/-- the model never answers `panic` to a `C08 arith …` request: an implementation-side `panic`
    on such a request is therefore always reported as a disagreement -/
theorem driver_arith_never_panic (w : String) (cells : List String) :
    Driver.C08.handle ("arith" :: w :: cells) ≠ "panic" := by
  simp only [Driver.C08.handle]
  split
  · next p cs hw hc =>
    unfold Driver.C08.arithAnswer
    cases ho : p.runStack 0 cs.reverse with
    | panic site => exact absurd ho (noPanic_arith_word w p hw _ site)
    | _ => simp [Driver.C08.classOf]
  · simp
  · simp

end Arith

/-! ### layer L4 — the VM over the whole word table -/
section VM
open Xeh.Mach

/-- one `fetch_and_run` of a running machine, any word table: a panic can only come out of a word's program
    (or be the marker of a word the table lacks) -/
theorem vm_step_panics_only_in_words (np : String → Option Prog) (m : Mach) (s : String) (m' : Mach)
    (hrun : m.isRunning = true) (h : Mach.step np m = (.panic s, m')) :
    ∃ name, (np name = none ∧ s = s!"model: native word {name} is outside the model") ∨
      ∃ p m0, np name = some p ∧ (Mach.runProg p m0).1 = .panic s :=
  Mach.step_panic np m s m' hrun h

/-- no program of the word table has a reachable panic node (printing words: only the gap marker) -/
theorem words_never_panic (name : String) (p : Prog) (h : nativeProg name = some p) (m : Mach) (s : String)
    (hp : (Mach.runProg p m).1 = .panic s) : s = "model: printing this value is outside the model" :=
  Mach.runProg_only _ p (Mach.nativeProg_only name p h) m s hp

/-- `State::run` from any machine state, any program, any number of steps -/
theorem vm_never_panics (fuel : Nat) (m : Mach) (s : String) (m' : Mach)
    (h : Mach.run nativeProg fuel m = some (.panic s, m')) :
    s = "model: printing this value is outside the model" ∨
    ∃ name, nativeProg name = none ∧ s = s!"model: native word {name} is outside the model" :=
  Mach.vm_never_panics fuel m s m' h

/-- with only covered words and printable values in play, `run` answers `ok` or an error value -/
theorem vm_run_noPanic (np : String → Option Prog) (hall : ∀ name, ∃ p, np name = some p ∧ Mach.PanicFree p)
    (fuel : Nat) (m : Mach) (s : String) (m' : Mach) : Mach.run np fuel m ≠ some (.panic s, m') :=
  Mach.run_np np hall fuel m s m'

/-- the hypothesis `isRunning` of the step theorem is needed: `fetch_and_run` beyond the program does panic
    (which is why `next` and `run` test `ip < code.len()` first) -/
example : (Mach.step nativeProg {}).1 = .panic "code[ip] out of bounds" := rfl

/-- non-vacuity: a machine that fails (an error value, not a panic) and one that finishes -/
example : (Mach.run nativeProg 5 { code := [.native "drop"] }).map (·.1) = some (.err .stackUnderflow) := rfl
example : (Mach.run nativeProg 5 { code := [.loadI64 1, .native "dup", .native "+"] }).map (fun r => (r.1, r.2.ds)) =
    some (.ok (), [.int 2]) := rfl

end VM

/-! ### reverse stepping (`State::rnext`) -/

/-- undoing one log entry answers `ok` or an error value, whatever the machine: every entry that takes something off a
    stack looks at the current context's mark first -/
theorem undo_never_panics (c : Mach.Core) (st : RStep) (p : String) : (Mach.undoC c st).1 ≠ .panic p := by
  unfold Mach.undoC
  repeat' split
  all_goals simp

/-- undoing the first entry does not panic, so `rnextC` does only if undoing the rest of the segment does -/
theorem rnextC_never_panics {rest : List RStep} {p : String} (hrest : ∀ c, (Mach.undoSeg rest c).1 ≠ .panic p)
    (c : Mach.Core) (st : RStep) : (Mach.rnextC c (st :: rest)).1 ≠ .panic p := by
  simp only [Mach.rnextC]
  split
  · exact hrest _
  · simp
  · rename_i q c' hq
    exact absurd (congrArg Prod.fst hq) (undo_never_panics c _ q)

theorem undoSeg_never_panics : ∀ (l : List RStep) (c : Mach.Core) (p : String), (Mach.undoSeg l c).1 ≠ .panic p
  | [], c, p => by simp [Mach.undoSeg]
  | st :: rest, c, p => by
    have h := rnextC_never_panics (fun c => undoSeg_never_panics rest c p) c st
    cases st
    case setIp ip => simp [Mach.undoSeg]
    -- on any other entry `undoSeg` does what `rnextC` does
    all_goals exact h

/-- **a reverse step never panics**: `State::rnext` on any machine, with any reverse log — also one whose entries no
    longer fit the stacks (a probe that failed while the program was paused left its context open; the program's own
    entries then reach below that context's marks): the answer is `ok` or an error value -/
theorem reverse_step_never_panics (m : Mach) (p : String) : (Mach.rnext m).1 ≠ .panic p := by
  unfold Mach.rnext
  cases hl : m.log with
  | none => simp
  | some l =>
    cases l with
    | nil => simp [Mach.rnextC]
    | cons st rest => exact rnextC_never_panics (fun c => undoSeg_never_panics rest c p) m.core st

/-! ### layer L7 — whole sources -/

/-- **a whole source never panics**: `build_from_source` — reading, compiling, running the meta blocks, closing the
    context and (in eval mode) running the program — on any session whatsoever (no well-formedness assumed), in any
    mode, with any token list and any fuel: the answer is never `panic`. Holding for every session, it holds after
    any history of sources, aborts and runs. -/
theorem source_never_panics (fuel : Nat) (mode : Mode) (toks : List Compile.Tok) (s : Session.Sess) (p : String)
    (s' : Session.Sess) : s.buildSource fuel mode toks ≠ .panic p s' :=
  Session.buildSource_never_panics fuel mode toks s p s'

/-- `run` on any session (what `Xstate::run` does after `compile`) -/
theorem session_run_never_panics (fuel : Nat) (s : Session.Sess) (p : String) (s' : Session.Sess) :
    s.runS fuel ≠ .panic p s' := by
  have := Session.npan_runS s fuel
  intro h
  rw [h] at this
  exact this

/-! ### layer L1 — bit strings on well-formed handles; token location; Z85 -/
section Leaves
open Xeh.Bitstr

/-- every read-only operation, `detach`, `append`, `insert`, `invert` on a well-formed handle: a result, never a
    panic (each index / `unwrap` / subtraction site of bitstr.rs is a `panic` value of the model) -/
theorem noPanic_bitstr (h : Heap) (s t : Handle) (ws : WF h s) (wt : WF h t) (k : Nat)
    (ht : t.buf = s.buf → 2 ≤ (h.buf s.buf).rc) :
    NoPanic (h.view s).iter8 ∧ NoPanic (h.view s).bitsIter ∧ NoPanic (h.view s).toBytes ∧
    NoPanic (h.view s).toBytesWithPadding ∧ NoPanic (h.view s).bytestr ∧ NoPanic (h.view s).toHexString ∧
    NoPanic (View.eqWith (h.view s) (h.view t)) ∧
    NoPanic (detach h s) ∧ NoPanic (append h s t) ∧ NoPanic (invert h s) ∧ NoPanic (insert h s k t) := by
  have ok {α : Type} {o : Outcome α} {a : α} (e : o = .ok a) : NoPanic o := e ▸ noPanic_ok a
  refine ⟨ok (View.iter8_spec _ ws.view), ok (View.bitsIter_spec _ ws.view), ok (View.toBytes_spec _ ws.view),
    ok (View.toBytesWithPadding_spec _ ws.view), ok (View.bytestr_spec _ ws.view), ok (View.toHexString_spec _ ws.view),
    ok (View.eqWith_spec _ _ ws.view wt.view), ?_, ?_, ?_, ?_⟩
  · obtain ⟨h', s', e, _⟩ := detach_spec h s ws; exact ok e
  · obtain ⟨h', r, e, _⟩ := append_spec h s t ws wt ht; exact ok e
  · obtain ⟨h', r, e, _⟩ := invert_strong h s ws; exact ok e
  · by_cases hk : s.start + k ≤ s.end_ ∧ s.start + k ≤ Bitstr.usizeMax
    · obtain ⟨h', r, e, _⟩ := insert_strong h s t k ws wt hk.1 hk.2; exact ok e
    · exact ok (insert_invalid h s t k hk)

/-- `token_location` (behind `pretty_error` and `last_err_location`) on any text and any token start -/
theorem noPanic_token_location (pre post : List Char) :
    (Lex.tokenLocation (pre ++ post) (utf8Len pre)).isPanic = false :=
  C17loc.location_total pre post

/-- Z85 decoding behind the guard of the glue -/
theorem noPanic_z85 (data : List Nat) (p : String) : Enc.z85Guarded data ≠ .panic p :=
  C18.zero85_decode_never_panics data p

end Leaves

/-! ### non-vacuity: concrete instances, including the inputs that panicked before the `fix:` commits -/

example : ("/", wordDiv) ∈ arithTable := by simp [arithTable]
example : NoPanic (wordDiv.runStack 0 [.int (-1), .int (-(2^127))]) := noPanic_arith ("/", wordDiv) (by simp [arithTable]) _
example : wordDiv.runStack 0 [.int (-1), .int (-(2^127))] = .err .integerOverflow := by decide
example : wordRem.runStack 0 [.int 0, .int 1] = .err .divisionByZero := by decide
example : wordAbs.runStack 0 [.int (-(2^127))] = .err .integerOverflow := by decide
example : ¬ NoPanic (Outcome.panic "x" : Outcome Nat) := fun h => h "x" rfl

end Xeh.C08
