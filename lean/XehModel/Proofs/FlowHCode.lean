/-
While a block is being compiled, every `break` that no loop inside the block encloses and every `endof` that no `case`
inside the block encloses has emitted a `jump 0` and left an entry on the flow stack.  The holes are kept IN the code:
`HCode` is code whose opcodes may be such holes, `hcode st` what the flow-stack compiler has emitted for `st`, `subst`
fills holes in (a hole knows its distance to the end of the fragment, which is how `compileS` states its contexts),
and `fill_hcode` says that filling the holes of `hcode st` as a context demands yields `compileS st` in that context.
-/
import XehModel.Proofs.FlowSim

namespace Xeh.Structured
open Xeh Xeh.Mach Xeh.Compile Xeh.Compile.CState

inductive HOp where
  | op (o : Op)
  /-- the `jump 0` of a pending `break` -/
  | brk
  /-- the `jump 0` of a pending `endof` -/
  | arm

/-- opcodes with the token each is attributed to, as `compileS` lists them -/
abbrev HCode := List (HOp × Nat)

def HOp.erase : HOp → Op
  | .op o => o
  | _ => .jump 0

/-- what the compiler state holds of symbolic code -/
def erase (H : HCode) : List Op := H.map (·.1.erase)
def toks (H : HCode) : List Nat := H.map (·.2)
def ops (c : List (Op × Nat)) : HCode := c.map fun x => (.op x.1, x.2)

@[simp] theorem length_erase (H : HCode) : (erase H).length = H.length := List.length_map ..

/-- a `break` hole `d` opcodes before the end of the fragment becomes `fb d`, an `endof` hole `fa d` -/
def subst (fb fa : Nat → HOp) : HCode → HCode
  | [] => []
  | (h, t) :: r => ((match h with | .brk => fb (r.length + 1) | .arm => fa (r.length + 1) | h => h), t) :: subst fb fa r

@[simp] theorem length_subst (fb fa : Nat → HOp) : ∀ H : HCode, (subst fb fa H).length = H.length
  | [] => rfl
  | (h, t) :: r => by simp [subst, length_subst fb fa r]

@[simp] theorem toks_subst (fb fa : Nat → HOp) : ∀ H : HCode, toks (subst fb fa H) = toks H
  | [] => rfl
  | (h, t) :: r => by simp [subst, toks] at *; exact toks_subst fb fa r

theorem subst_append (fb fa : Nat → HOp) (Y : HCode) : ∀ X : HCode,
    subst fb fa (X ++ Y) = subst (fun d => fb (d + Y.length)) (fun d => fa (d + Y.length)) X ++ subst fb fa Y
  | [] => rfl
  | (h, t) :: r => by simp [subst, subst_append fb fa Y r, Nat.add_right_comm]

theorem subst_ops (fb fa : Nat → HOp) : ∀ c : List (Op × Nat), subst fb fa (ops c) = ops c
  | [] => rfl
  | x :: c => by simp [ops, subst] at *; exact subst_ops fb fa c

def armD (c d : Nat) : HOp := .op (.jump ((c + d : Nat) : Int))

/-- `endcase` fills the `endof`s in and leaves the `break`s pending -/
theorem subst_subst (fb fa : Nat → HOp) (c : Nat) : ∀ H : HCode,
    subst fb fa (subst (fun _ => .brk) (armD c) H) = subst fb (armD c) H
  | [] => rfl
  | (h, t) :: r => by cases h <;> simp [subst, armD, subst_subst fb fa c r]

/-- what `compileS` makes of a `break` in the context `bk`, `d` opcodes before the end of the fragment -/
def brkD (bk : BK) (d : Nat) : Op :=
  match bk with
  | .jump k => .jump ((k + d : Nat) : Int)
  | .loop k => .breakOp ((k + d : Nat) : Int)
  | .none => .nop

theorem brkD_shift (bk : BK) (n d : Nat) : brkD bk (d + n) = brkD (bk.shift n) d := by
  cases bk <;> simp [BK.shift, brkD] <;> omega

/-- what the flow-stack compiler has emitted for `st` once `st` is closed: loops have patched their `break`s, `endcase`
    its `endof`s, and what is still pending is a hole -/
def hcode : Stmt → HCode
  | .seq a b => hcode a ++ hcode b
  | .ifThen t a => (.op (.jumpIfNot (size a + 1)), t) :: hcode a
  | .ifElse t te a b => (.op (.jumpIfNot (size a + 2)), t) :: hcode a ++ (.op (.jump (size b + 1)), te) :: hcode b
  | .brk t => [(.brk, t)]
  | .caseS a => subst (fun _ => .brk) (armD 0) (hcode a)
  | .arm tOf tEndof body => (.op (.caseOf (size body + 2)), tOf) :: hcode body ++ [(.arm, tEndof)]
  | st => ops (compileS st .none none)

@[simp] theorem length_ops (c : List (Op × Nat)) : (ops c).length = c.length := by simp [ops]

@[simp] theorem length_hcode (st : Stmt) : (hcode st).length = size st := by
  induction st <;> simp [hcode, size, compileS_len, *] <;> omega

/-- `r`: the statement stands in the spine of a `case` (whose `endcase` lies `c` opcodes behind the fragment); elsewhere it
    has no `endof` hole and `compileS` does not look at `ce` -/
theorem fill_hcode (st : Stmt) : ∀ (k r : Bool) (bk : BK) (ce : Option Nat) (fa : Nat → HOp), WFS st k r = true →
    (r = true → ∃ c, ce = some c ∧ fa = armD c) →
    subst (fun d => .op (brkD bk d)) fa (hcode st) = ops (compileS st bk ce) := by
  induction st with
  | seq a b iha ihb =>
    intro k r bk ce fa hw hr
    simp only [WFS, Bool.and_eq_true] at hw
    simp only [hcode, compileS, subst_append, length_hcode, brkD_shift, ops, List.map_append]
    rw [← ops, ← ops, iha k r _ (ce.map (· + size b)) _ hw.1 fun h => ?_, ihb k r bk ce fa hw.2 hr]
    obtain ⟨c, rfl, rfl⟩ := hr h
    exact ⟨c + size b, rfl, by funext d; simp [armD]; omega⟩
  | ifThen t a ih =>
    intro k r bk ce fa hw _
    simp only [hcode, compileS, subst, ops, List.map_cons]
    rw [← ops, ih k false bk none fa hw nofun]
  | ifElse t te a b iha ihb =>
    intro k r bk ce fa hw _
    simp only [WFS, Bool.and_eq_true] at hw
    simp only [hcode, compileS, subst, subst_append, ops, List.map_cons, List.map_append, List.length_cons, length_hcode, brkD_shift]
    rw [← ops, ← ops, iha k false _ none _ hw.1 nofun, ihb k false bk none fa hw.2 nofun, Nat.add_comm]
  | brk t =>
    intro k r bk ce fa _ _
    cases bk <;> simp [hcode, compileS, subst, ops, brkD]
  | caseS a ih =>
    intro k r bk ce fa hw _
    simp only [hcode, compileS, subst_subst]
    exact ih k true bk (some 0) _ hw fun _ => ⟨0, rfl, rfl⟩
  | arm tOf tEndof body ih =>
    intro k r bk ce fa hw hr
    simp only [WFS, Bool.and_eq_true] at hw
    obtain ⟨c, rfl, rfl⟩ := hr hw.1
    simp only [hcode, compileS, subst, subst_append, ops, List.map_cons, List.map_append, List.length_cons, List.length_nil, brkD_shift]
    rw [← ops, ih k false _ none _ hw.2 nofun]
    simp [armD, ops]
  | _ => intro k r bk ce fa _ _; simp only [hcode, subst_ops, compileS]

/-- the body `H` of a loop once the loop is closed: its breaks are what they are in the context `bk` -/
abbrev brkFill (bk : BK) (H : HCode) : List Op := erase (subst (fun d => .op (brkD bk d)) (armD 0) H)

theorem erase_ops (c : List (Op × Nat)) : erase (ops c) = c.map (·.1) := by simp [erase, ops, HOp.erase]
theorem toks_ops (c : List (Op × Nat)) : toks (ops c) = c.map (·.2) := by simp [toks, ops]

/-- a loop body, in code and debug map -/
theorem loop_body {a : Stmt} {k : Bool} (hw : WFS a k false = true) (bk : BK) :
    brkFill bk (hcode a) = (compileS a bk none).map (·.1) ∧ toks (hcode a) = (compileS a bk none).map (·.2) := by
  have e := fill_hcode a _ _ bk none (armD 0) hw nofun
  exact ⟨by rw [brkFill, e, erase_ops], by rw [← toks_subst _ (armD 0), e, toks_ops]⟩

/-! ### which holes there are -/

def HOp.isArm : HOp → Bool | .arm => true | _ => false
def HOp.isBrk : HOp → Bool | .brk => true | _ => false
def noArm : HCode → Bool
  | [] => true
  | (h, _) :: r => !h.isArm && noArm r
def noBrk : HCode → Bool
  | [] => true
  | (h, _) :: r => !h.isBrk && noBrk r

theorem noArm_append : ∀ X Y : HCode, noArm (X ++ Y) = (noArm X && noArm Y)
  | [], _ => rfl
  | (h, t) :: r, Y => by simp [noArm, noArm_append r Y, Bool.and_assoc]

theorem noBrk_append : ∀ X Y : HCode, noBrk (X ++ Y) = (noBrk X && noBrk Y)
  | [], _ => rfl
  | (h, t) :: r, Y => by simp [noBrk, noBrk_append r Y, Bool.and_assoc]

theorem no_ops : ∀ c : List (Op × Nat), noArm (ops c) = true ∧ noBrk (ops c) = true
  | [] => ⟨rfl, rfl⟩
  | x :: c => by simpa [ops, noArm, noBrk, HOp.isArm, HOp.isBrk] using no_ops c

theorem noArm_subst (c : Nat) : ∀ H : HCode, noArm (subst (fun _ => .brk) (armD c) H) = true
  | [] => rfl
  | (h, t) :: r => by cases h <;> simpa [noArm, subst, armD, HOp.isArm] using noArm_subst c r

theorem noBrk_subst (c : Nat) : ∀ H : HCode, noBrk (subst (fun _ => .brk) (armD c) H) = noBrk H
  | [] => rfl
  | (h, t) :: r => by cases h <;> simp [noBrk, subst, armD, HOp.isBrk, noBrk_subst c r]

theorem subst_closed (fb fa : Nat → HOp) : ∀ H : HCode, noArm H = true → noBrk H = true → subst fb fa H = H
  | [], _, _ => rfl
  | (h, t) :: r, ha, hb => by
    cases h <;> simp [noArm, noBrk, HOp.isArm, HOp.isBrk] at ha hb
    simp [subst, subst_closed fb fa r ha hb]

theorem wfs_noArm (st : Stmt) : ∀ k : Bool, WFS st k false = true → noArm (hcode st) = true := by
  induction st with
  | seq a b iha ihb => intro k h; simp only [WFS, Bool.and_eq_true] at h; simp [hcode, noArm_append, iha k h.1, ihb k h.2]
  | ifThen t a ih => intro k h; simpa [hcode, noArm, HOp.isArm] using ih k h
  | ifElse t te a b iha ihb =>
    intro k h; simp only [WFS, Bool.and_eq_true] at h; simp [hcode, noArm, noArm_append, HOp.isArm, iha k h.1, ihb k h.2]
  | arm tOf tEndof body ih => intro k h; simp [WFS] at h
  | caseS a ih => intro k _; exact noArm_subst 0 _
  | brk t => intro k _; rfl
  | _ => intro k _; exact (no_ops _).1

theorem wfs_noBrk (st : Stmt) : ∀ r : Bool, WFS st false r = true → noBrk (hcode st) = true := by
  induction st with
  | seq a b iha ihb => intro r h; simp only [WFS, Bool.and_eq_true] at h; simp [hcode, noBrk_append, iha r h.1, ihb r h.2]
  | ifThen t a ih => intro r h; simpa [hcode, noBrk, HOp.isBrk] using ih false h
  | ifElse t te a b iha ihb =>
    intro r h; simp only [WFS, Bool.and_eq_true] at h; simp [hcode, noBrk, noBrk_append, HOp.isBrk, iha false h.1, ihb false h.2]
  | arm tOf tEndof body ih =>
    intro r h; simp only [WFS, Bool.and_eq_true] at h; simp [hcode, noBrk, noBrk_append, HOp.isBrk, ih false h.2]
  | caseS a ih => intro r h; rw [hcode, noBrk_subst]; exact ih true h
  | brk t => intro r h; simp [WFS] at h
  | _ => intro r _; exact (no_ops _).2

theorem freeBrk_noBrk (st : Stmt) : freeBrk st = false → noBrk (hcode st) = true := by
  induction st with
  | seq a b iha ihb => intro h; simp only [freeBrk, Bool.or_eq_false_iff] at h; simp [hcode, noBrk_append, iha h.1, ihb h.2]
  | ifThen t a ih => intro h; simpa [hcode, noBrk, HOp.isBrk] using ih h
  | ifElse t te a b iha ihb =>
    intro h; simp only [freeBrk, Bool.or_eq_false_iff] at h; simp [hcode, noBrk, noBrk_append, HOp.isBrk, iha h.1, ihb h.2]
  | arm tOf tEndof body ih => intro h; simp [hcode, noBrk, noBrk_append, HOp.isBrk, ih h]
  | caseS a ih => intro h; rw [hcode, noBrk_subst]; exact ih h
  | brk t => intro h; simp [freeBrk] at h
  | _ => intro _; exact (no_ops _).2

theorem wfs_freeArm_noArm (st : Stmt) : ∀ k r : Bool, WFS st k r = true → freeArm st = false → noArm (hcode st) = true := by
  induction st with
  | seq a b iha ihb =>
    intro k r h hf
    simp only [WFS, Bool.and_eq_true] at h
    simp only [freeArm, Bool.or_eq_false_iff] at hf
    simp [hcode, noArm_append, iha k r h.1 hf.1, ihb k r h.2 hf.2]
  | arm tOf tEndof body ih => intro k r _ hf; simp [freeArm] at hf
  | _ => intro k r h _; exact wfs_noArm _ k h

/-! ### what the holes have left on the flow stack -/

/-- the entries the holes of `H`, placed at `pc`, have left on the flow stack, newest first -/
def pend (pc : Nat) : HCode → List Flow
  | [] => []
  | (.op _, _) :: r => pend (pc + 1) r
  | (.brk, _) :: r => pend (pc + 1) r ++ [.breakF pc]
  | (.arm, _) :: r => pend (pc + 1) r ++ [.caseEndOfF pc]

theorem pend_append (Y : HCode) : ∀ (X : HCode) (pc : Nat), pend pc (X ++ Y) = pend (pc + X.length) Y ++ pend pc X
  | [], pc => (List.append_nil _).symm
  | (h, t) :: r, pc => by
    have e : pc + ((h, t) :: r).length = pc + 1 + r.length := by rw [List.length_cons]; omega
    cases h <;> simp only [pend, List.cons_append, pend_append Y r, e, List.append_assoc]

theorem pend_closed : ∀ (H : HCode) (pc : Nat), noArm H = true → noBrk H = true → pend pc H = []
  | [], _, _, _ => rfl
  | (.op _, _) :: r, pc, ha, hb => pend_closed r _ ha hb
  | (.brk, _) :: _, _, _, hb => nomatch hb
  | (.arm, _) :: _, _, ha, _ => nomatch ha

def isBrkF : Flow → Bool
  | .breakF _ => true
  | _ => false

/-- pending entries are `breakF` or `caseEndOfF`: nothing that looks at the flow stack for an open definition or an open
    loop sees them -/
theorem pend_kinds : ∀ (H : HCode) (pc : Nat), ∀ f ∈ pend pc H, (∃ p, f = .breakF p) ∨ (∃ q, f = .caseEndOfF q)
  | (.op _, _) :: r, pc, f, hf => pend_kinds r _ f hf
  | (.brk, _) :: r, pc, f, hf => (List.mem_append.mp hf).elim (pend_kinds r _ f) fun h => .inl ⟨pc, List.mem_singleton.mp h⟩
  | (.arm, _) :: r, pc, f, hf => (List.mem_append.mp hf).elim (pend_kinds r _ f) fun h => .inr ⟨pc, List.mem_singleton.mp h⟩

theorem pend_brks : ∀ (H : HCode) (pc : Nat), noArm H = true → ∀ f ∈ pend pc H, isBrkF f = true
  | (.op _, _) :: r, pc, ha, f, hf => pend_brks r _ ha f hf
  | (.brk, _) :: r, pc, ha, f, hf => (List.mem_append.mp hf).elim (pend_brks r _ ha f) fun h => List.mem_singleton.mp h ▸ rfl
  | (.arm, _) :: _, _, ha, _, _ => nomatch ha

theorem pend_subst (c : Nat) : ∀ (H : HCode) (pc : Nat), pend pc (subst (fun _ => .brk) (armD c) H) = (pend pc H).filter isBrkF
  | [], _ => rfl
  | (.op _, _) :: r, pc => pend_subst c r _
  | (.brk, _) :: r, pc => by simp only [subst, pend, pend_subst c r, List.filter_append]; rfl
  | (.arm, _) :: r, pc => by simp only [subst, armD, pend, pend_subst c r, List.filter_append]; exact (List.append_nil _).symm

/-- a statement with nothing pending has been compiled to what `compileS` says -/
theorem hcode_closed {st : Stmt} (hw : WFS st false false = true) : hcode st = ops (compileS st .none none) :=
  (subst_closed _ _ _ (wfs_noArm st _ hw) (wfs_noBrk st _ hw)).symm.trans (fill_hcode st _ _ .none none (armD 0) hw nofun)

end Xeh.Structured
