/-
`parseBlock` only ever adds statements in front of the accumulator it was given.
-/
import XehModel.Model.ParseS

namespace Xeh.Structured
open Xeh Xeh.Compile

theorem parse_acc (f : Nat) (toks : List Tok) (idx : Nat) (p : PState) (top : Bool) (acc : List Stmt) (blk : Block) :
    parseBlock f toks idx p top acc = some blk → ∃ l, blk.stmt = seqs l ∧ ∀ x ∈ acc, x ∈ l := by
  fun_induction parseBlock f toks idx p top acc <;> intro h
  case case2 | case11 => cases h; exact ⟨_, rfl, fun x hx => List.mem_reverse.mpr hx⟩
  all_goals try cases h
  all_goals
    rename_i ih
    obtain ⟨l, e, m⟩ := ih h
    exact ⟨l, e, fun x hx => m x (by simp [hx])⟩

end Xeh.Structured
