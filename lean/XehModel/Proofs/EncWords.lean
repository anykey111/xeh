/- What the encode and decode words do, for any encoder and any decoder. -/
import XehModel.Proofs.EncInvalid

namespace Xeh.Enc
open Xeh Prog

theorem words_roundtrip {enc : List Nat → List Nat} {dec : List Nat → Dec} (P : Pair enc dec)
    (c : Cell) (bits : List Bool) (hc : bitstrConcat c = .ok bits) (hm : bits.length % 8 = 0)
    (s : List Cell) (h : Nat) (hh : h ≤ s.length) :
    ∃ t, runStack (encodeWord enc) h (c :: s) = .ok (.str t :: s) ∧
         runStack (decodeWord dec) h (.str t :: s) = .ok (.bitstr bits :: s) := by
  obtain ⟨hb, hlt⟩ := bytesToBits_bitsToBytes bits hm
  refine ⟨asciiStr (enc (bitsToBytes bits)), ?_, ?_⟩
  · rw [run_encodeWord enc c s h hh, hc]
    simp [bytestr, hm]
  · rw [run_decodeWord_str dec _ _ rfl s h hh, utf8Bytes_asciiStr _ (P.ascii _),
      P.rt _ hlt]
    simp [hb]

theorem decode_total (dec : List Nat → Dec) (hnp : ∀ d p, dec d ≠ .panic p)
    (c : Cell) (t : List Char) (hc : c.toStr = .ok t) (s : List Cell) (h : Nat) (hh : h ≤ s.length) :
    runStack (decodeWord dec) h (c :: s) = .ok (.nil :: s) ∨
    ∃ l, dec (utf8Bytes t) = .bytes l ∧ runStack (decodeWord dec) h (c :: s) = .ok (.bitstr (bytesToBits l) :: s) := by
  rw [run_decodeWord_str dec c t hc s h hh]
  cases hd : dec (utf8Bytes t) with
  | bytes l => right; exact ⟨l, rfl, rfl⟩
  | invalid => left; rfl
  | panic p => exact absurd hd (hnp _ p)

theorem decode_invalid_nil (dec : List Nat → Dec) (c : Cell) (t : List Char) (hc : c.toStr = .ok t)
    (hinv : dec (utf8Bytes t) = .invalid) (s : List Cell) (h : Nat) (hh : h ≤ s.length) :
    runStack (decodeWord dec) h (c :: s) = .ok (.nil :: s) := by
  rw [run_decodeWord_str dec c t hc s h hh, hinv]

end Xeh.Enc
