/-
C14 for one source (histories: Props/C14.lean): whatever it does — build, run meta blocks while building, be
rejected and unwound, fail at run time — the instruction meter never goes down, the limit is untouched, and a meter
within the limit stays within it.  No well-formedness hypothesis.
-/
import XehModel.Proofs.SessionPre
import XehModel.Proofs.VMMeter

namespace Xeh.Session
open Xeh Xeh.Mach Xeh.Compile Xeh.Session.Sess

theorem mle_pre : MachPre MLe where
  trans := MLe.trans
  frame := fun e1 e2 _ _ _ _ => Keeps.mle ⟨e1, e2⟩
  run := run_mle nativeProg
  popData := fun m => (popData_keeps m).mle
  fromC := fun _ _ _ => Keeps.mle ⟨rfl, rfl⟩

/-- in particular what a rejected source executed while it was being built (its meta blocks) stays counted -/
theorem buildSource_meter (fuel : Nat) (mode : Mode) (toks : List Tok) (s : Sess) :
    (s.buildSource fuel mode toks).All (MLe s.m ·.m) (MLe s.m ·.m) :=
  mle_pre.buildSource fuel mode toks s

end Xeh.Session
