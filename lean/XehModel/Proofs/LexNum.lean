/-
Numbers: digit strings and their value, `natDigits` (printer) against `digitsVal`/`parseInt` (reader), and the
evaluation of `scanWord` on a numeral followed by a separator.
-/
import XehModel.Model.Print
import XehModel.Proofs.LexTiling

namespace Xeh.Lex
open Xeh.Print

theorem spanP_append (p : Char → Bool) (body rest : List Char)
    (hb : ∀ c ∈ body, p c = true) (hr : ∀ w ∈ rest.head?, p w = false) :
    spanP p (body ++ rest) = (body, rest) := by
  induction body with
  | nil =>
    cases rest with
    | nil => rfl
    | cons w r => simp [spanP, hr w rfl]
  | cons c t ih =>
    have hc : p c = true := hb c (by simp)
    have := ih (fun x hx => hb x (by simp [hx]))
    simp [spanP, hc, this]

def Sep (rest : List Char) : Prop := rest = [] ∨ ∃ w r', rest = w :: r' ∧ isWs w = true

theorem Sep.head {rest : List Char} (hr : Sep rest) : ∀ w ∈ rest.head?, isWs w = true := by
  rcases hr with rfl | ⟨w, r', rfl, hw⟩ <;> simp [*]

theorem Sep.span {rest : List Char} (hr : Sep rest) {body : List Char} (hb : ∀ x ∈ body, isWs x = false) :
    spanP (fun c => !isWs c) (body ++ rest) = (body, rest) :=
  spanP_append _ body rest (fun x hx => by simp [hb x hx]) (fun w hw => by simp [hr.head w hw])

theorem toDigit_lt {radix : Nat} {c : Char} {v : Nat} (h : toDigit radix c = some v) : v < radix := by
  unfold toDigit at h
  simp only [] at h
  split at h
  · split at h
    · simp at h; omega
    · simp at h
  · simp at h

theorem toDigit_of_36 {radix : Nat} {c : Char} {v : Nat} (h : toDigit 36 c = some v) (hv : v < radix) :
    toDigit radix c = some v := by
  unfold toDigit at h ⊢
  simp only [] at h ⊢
  split at h
  · rename_i v' heq
    split at h
    · simp at h; subst h; simp [hv]
    · simp at h
  · simp at h

theorem toDigit_digitChar (up : Bool) {b d : Nat} (hd : d < b) (hb : b ≤ 36) :
    toDigit b (digitChar up d) = some d := by
  have : ∀ up : Bool, ∀ d : Fin 36, toDigit 36 (digitChar up d.val) = some d.val := by decide +kernel
  exact toDigit_of_36 (this up ⟨d, by omega⟩) hd

theorem digitsVal_append (radix : Nat) (xs ys : List Char) (acc : Nat) :
    digitsVal radix (xs ++ ys) acc = (digitsVal radix xs acc).bind (digitsVal radix ys) := by
  induction xs generalizing acc with
  | nil => simp [digitsVal]
  | cons c t ih =>
    simp only [List.cons_append, digitsVal]
    split
    · exact ih _
    · simp

theorem digitsVal_natDigits (b : Nat) (up : Bool) (hb2 : 2 ≤ b) (hb : b ≤ 36) (n : Nat) :
    digitsVal b (natDigits b up n) 0 = some n := by
  fun_induction natDigits b up n with
  | case1 n h => simp [digitsVal, toDigit_digitChar up (show n < b by omega) hb]
  | case2 n h ih =>
    rw [digitsVal_append, ih]
    simp [digitsVal, toDigit_digitChar up (Nat.mod_lt n (show 0 < b by omega)) hb]
    exact Nat.div_add_mod' n b

theorem natDigits_ne_nil (b : Nat) (up : Bool) (n : Nat) : natDigits b up n ≠ [] := by
  rw [natDigits]; split <;> simp

theorem natDigits_isDigit (n : Nat) : ∀ c ∈ natDigits 10 false n, isDigit c = true := by
  have dig : ∀ d : Fin 10, isDigit (digitChar false d.val) = true := by decide +kernel
  fun_induction natDigits 10 false n with
  | case1 n h =>
    intro c hc
    cases List.mem_singleton.mp hc; exact dig ⟨n, by omega⟩
  | case2 n h ih =>
    intro c hc
    rcases List.mem_append.mp hc with hc | hc
    · exact ih c hc
    · cases List.mem_singleton.mp hc; exact dig ⟨n % 10, Nat.mod_lt _ (by omega)⟩

theorem natDigits_head (b : Nat) (up : Bool) (hb2 : 2 ≤ b) (n : Nat) (hn : n ≠ 0) :
    ∃ d t, natDigits b up n = digitChar up d :: t ∧ 0 < d ∧ d < b := by
  fun_induction natDigits b up n with
  | case1 n h => exact ⟨n, [], rfl, by omega, by omega⟩
  | case2 n h ih =>
    have : 0 < n / b := Nat.div_pos (by omega) (by omega)
    obtain ⟨d, t, heq, hd⟩ := ih (by omega)
    exact ⟨d, t ++ [digitChar up (n % b)], by rw [heq]; rfl, hd⟩

theorem isDigit_ne {c c' : Char} (h : isDigit c = true) (h' : isDigit c' = false) : c ≠ c' := by
  rintro rfl; rw [h] at h'; cases h'

theorem isDigit_notWs {c : Char} (h : isDigit c = true) : isWs c = false := by
  simp only [isWs, Bool.or_eq_false_iff, beq_eq_false_iff_ne]
  exact ⟨⟨⟨⟨isDigit_ne h rfl, isDigit_ne h rfl⟩, isDigit_ne h rfl⟩, isDigit_ne h rfl⟩, isDigit_ne h rfl⟩

theorem digits_not_special {radix : Nat} {ds : List Char} {acc v : Nat}
    (h : digitsVal radix ds acc = some v) (c : Char) (hc : c = '.' ∨ c = '-' ∨ c = '+' ∨ c = '_') : c ∉ ds := by
  have hn : toDigit radix c = none := by rcases hc with rfl | rfl | rfl | rfl <;> simp [toDigit]
  induction ds generalizing acc with
  | nil => simp
  | cons x t ih =>
    simp only [digitsVal] at h
    intro hm
    rcases List.mem_cons.mp hm with rfl | hm
    · simp [hn] at h
    · cases hx : toDigit radix x with
      | none => simp [hx] at h
      | some d => exact ih (by simpa [hx] using h) hm

def IsSign (sg : List Char) : Prop := sg = [] ∨ sg = ['+'] ∨ sg = ['-']

theorem splitSign_signed {sg ds : List Char} (hsg : IsSign sg) (hd : ∀ c ∈ ds.head?, c ≠ '-' ∧ c ≠ '+') :
    splitSign (sg ++ ds) = (decide (sg = ['-']), ds) := by
  rcases hsg with rfl | rfl | rfl
  · cases ds with
    | nil => rfl
    | cons c t =>
      have := hd c rfl
      show splitSign (c :: t) = _
      unfold splitSign
      split
      · rename_i heq; cases heq; exact absurd rfl this.1
      · rename_i heq; cases heq; exact absurd rfl this.2
      · rfl
  · rfl
  · rfl

theorem parseInt_signed (radix : Nat) (sg ds : List Char) (hsg : IsSign sg) (hne : ds ≠ []) (v : Nat)
    (hv : digitsVal radix ds 0 = some v) :
    parseInt radix (sg ++ ds) =
      if InRange (if sg = ['-'] then -(v : Int) else (v : Int))
      then some (if sg = ['-'] then -(v : Int) else (v : Int)) else none := by
  have hd : ∀ c ∈ ds.head?, c ≠ '-' ∧ c ≠ '+' := fun c hc =>
    have hm := List.mem_of_mem_head? hc
    ⟨fun e => digits_not_special hv c (by simp [e]) hm, fun e => digits_not_special hv c (by simp [e]) hm⟩
  unfold parseInt
  rw [splitSign_signed hsg hd]
  simp [hne, hv]

theorem any_dot_filter (body : List Char) :
    (body.filter (· != '_')).any (· == '.') = body.any (· == '.') := by
  rw [List.any_filter]
  congr 1; funext c
  by_cases h : c = '.'
  · subst h; rfl
  · simp [h]

theorem numDecide_int (d : Char) (radix : Option Nat) (tmp1 body : List Char)
    (hnd : body.any (· == '.') = false) :
    numDecide d radix tmp1 body =
      match parseInt (match radix with | some x => x | none => if d == '0' then 16 else 10)
          (tmp1 ++ body.filter (· != '_')) with
      | some i => .ok (.lit (.int i))
      | none => .error .parseInt := by
  unfold numDecide
  simp only [hnd]
  rfl

theorem numDecide_value {d : Char} {radix : Option Nat} {tmp1 body sg ds : List Char} {R v : Nat}
    (hsg : IsSign sg) (hR : (match radix with | some x => x | none => if d == '0' then 16 else 10) = R)
    (hds : tmp1 ++ body.filter (· != '_') = sg ++ ds) (hne : ds ≠ []) (hv : digitsVal R ds 0 = some v) :
    numDecide d radix tmp1 body =
      if InRange (if sg = ['-'] then -(v : Int) else (v : Int))
      then .ok (.lit (.int (if sg = ['-'] then -(v : Int) else (v : Int)))) else .error .parseInt := by
  have hnd : body.any (· == '.') = false := by
    rw [← any_dot_filter]
    simp only [List.any_eq_false, beq_iff_eq]
    rintro c hc rfl
    have : '.' ∈ sg ++ ds := hds ▸ List.mem_append_right _ hc
    rcases List.mem_append.mp this with h | h
    · rcases hsg with rfl | rfl | rfl <;> simp at h
    · exact digits_not_special hv '.' (.inl rfl) h
  rw [numDecide_int _ _ _ _ hnd, hR, hds, parseInt_signed R sg ds hsg hne v hv]
  by_cases h : InRange (if sg = ['-'] then -(v : Int) else (v : Int)) <;> simp only [h, if_true, if_false]

def numStep (pos : Nat) (res : Except ErrKind Tok) (taken rest : List Char) : Step :=
  match res with
  | .ok t => ⟨.ok t, taken, rest⟩
  | .error k => ⟨.error ⟨k, pos, pos + utf8Len taken⟩, taken, rest⟩

theorem scanWord_num (pos : Nat) (c : Char) (r : List Char) {d : Char}
    {tmp0 taken0 r0 tmp1 takenP r1 body rest : List Char} {radix : Option Nat}
    (h1 : numHead c r = (some d, tmp0, taken0, r0))
    (h2 : radixPrefix (some d) tmp0 r0 = (radix, tmp1, takenP, r1))
    (h3 : spanP (fun c => !isWs c) r1 = (body, rest)) :
    scanWord pos c r = numStep pos (numDecide d radix tmp1 body) (taken0 ++ takenP ++ body) rest := by
  unfold scanWord numStep
  simp only [h1, h2, h3]
  cases numDecide d radix tmp1 body <;> rfl

theorem scan_word_head (pos : Nat) {c : Char} (r : List Char) (h0 : isWs c = false) (h1 : c ≠ '"')
    (h2 : c ≠ '“') (h3 : c ≠ '|') : scan pos (c :: r) = scanWord pos c r := by
  rw [scan_nonws_head pos c r h0, scanTok_word pos c r h1 h2 h3]

theorem scan_numeral_head (pos : Nat) {sg : List Char} (hsg : IsSign sg) {d : Char} (hd : isDigit d = true)
    (r : List Char) :
    ∃ c r', scan pos (sg ++ d :: r) = scanWord pos c r' ∧
      numHead c r' = (some d, sg ++ [d], sg ++ [d], r) := by
  rcases hsg with rfl | rfl | rfl
  · exact ⟨d, r, scan_word_head pos r (isDigit_notWs hd) (isDigit_ne hd rfl) (isDigit_ne hd rfl)
      (isDigit_ne hd rfl), by simp [numHead, hd]⟩
  · exact ⟨'+', d :: r, scan_word_head pos _ rfl (by decide) (by decide) (by decide),
      by simp [numHead, hd, show isDigit '+' = false from rfl]⟩
  · exact ⟨'-', d :: r, scan_word_head pos _ rfl (by decide) (by decide) (by decide),
      by simp [numHead, hd, show isDigit '-' = false from rfl]⟩

theorem radixPrefix_none (d : Char) (tmp r : List Char) (hd : d ≠ '0') :
    radixPrefix (some d) tmp r = (none, tmp, [], r) := by
  unfold radixPrefix; simp [hd]

theorem radixPrefix_zero (tmp r : List Char) (h : ∀ c ∈ r.head?, c ≠ 'x' ∧ c ≠ 'b') :
    radixPrefix (some '0') tmp r = (none, tmp, [], r) := by
  unfold radixPrefix
  rw [if_pos (beq_self_eq_true _)]
  split
  · exact absurd rfl (h 'b' rfl).2
  · exact absurd rfl (h 'x' rfl).1
  · rfl

theorem dropLast_sign_zero (sg : List Char) : (sg ++ ['0']).dropLast = sg := List.dropLast_concat

theorem radixPrefix_some (sg : List Char) {pc : Char} {R : Nat}
    (hp : (pc = 'x' ∧ R = 16) ∨ (pc = 'b' ∧ R = 2)) (r : List Char) :
    radixPrefix (some '0') (sg ++ ['0']) (pc :: r) = (some R, sg, [pc], r) := by
  rcases hp with ⟨rfl, rfl⟩ | ⟨rfl, rfl⟩ <;>
    exact congrArg (fun t => (_, t, _, _)) (dropLast_sign_zero sg)

/-- `pfx` is the prefix char (if any) as `radixPrefix` takes it; `sg ++ ds` is what reaches `from_str_radix` in the
    token's radix `R` -/
theorem scan_numeral (pos : Nat) {sg : List Char} (hsg : IsSign sg) {d : Char} (hd : isDigit d = true)
    (pfx body rest : List Char) (hb : ∀ x ∈ body, isWs x = false) (hr : Sep rest)
    {radix : Option Nat} {tmp1 ds : List Char} {R v : Nat}
    (h2 : radixPrefix (some d) (sg ++ [d]) (pfx ++ (body ++ rest)) = (radix, tmp1, pfx, body ++ rest))
    (hR : (match (motive := Option Nat → Nat) radix with
      | some x => x | none => if d == '0' then 16 else 10) = R)
    (hds : tmp1 ++ body.filter (· != '_') = sg ++ ds) (hne : ds ≠ []) (hv : digitsVal R ds 0 = some v) :
    scan pos (sg ++ d :: (pfx ++ body) ++ rest) =
      numStep pos
        (if InRange (if sg = ['-'] then -(v : Int) else (v : Int))
         then .ok (.lit (.int (if sg = ['-'] then -(v : Int) else (v : Int)))) else .error .parseInt)
        (sg ++ d :: (pfx ++ body)) rest := by
  obtain ⟨c, r', hscan, hhead⟩ := scan_numeral_head pos hsg hd (pfx ++ (body ++ rest))
  have e : sg ++ d :: (pfx ++ body) ++ rest = sg ++ d :: (pfx ++ (body ++ rest)) := by simp
  rw [e, hscan, scanWord_num pos c r' hhead h2 (hr.span hb), numDecide_value hsg hR hds hne hv]
  simp

theorem printInt_default (i : Int) :
    printInt {} i = (if i < 0 then ['-'] else []) ++ natDigits 10 false i.natAbs := by
  simp only [printInt]; split <;> rfl

theorem scan_printDec (pos : Nat) (i : Int) (hi : InRange i) (rest : List Char) (hr : Sep rest) :
    scan pos (printInt {} i ++ rest) = ⟨.ok (.lit (.int i)), printInt {} i, rest⟩ := by
  rw [printInt_default]
  generalize hsg' : (if i < 0 then ['-'] else []) = sg
  have hsg : IsSign sg := by subst hsg'; split <;> simp [IsSign]
  have hval : (if sg = ['-'] then -(i.natAbs : Int) else (i.natAbs : Int)) = i := by
    subst hsg'; split <;> simp <;> omega
  have hall := natDigits_isDigit i.natAbs
  have hv := digitsVal_natDigits 10 false (by omega) (by omega) i.natAbs
  by_cases h0 : i.natAbs = 0
  · -- `0` alone: a leading zero, read in base 16
    have hz : natDigits 10 false 0 = ['0'] := by rw [natDigits]; rfl
    rw [h0] at hval hv ⊢
    rw [hz] at hv ⊢
    refine (scan_numeral pos hsg (d := '0') rfl [] [] rest (by simp) hr
      (radixPrefix_zero _ _ fun c hc => ?_) rfl (ds := ['0']) (v := 0) (by simp) (by simp) rfl).trans ?_
    · have := hr.head c hc
      constructor <;> (rintro rfl; cases this)
    · rw [hval, if_pos hi]; rfl
  · obtain ⟨d, t, heq, hd0, hd10⟩ := natDigits_head 10 false (by omega) i.natAbs h0
    rw [heq] at hall hv ⊢
    have ht : ∀ c ∈ t, isDigit c = true := fun c hc => hall c (by simp [hc])
    have hne0 : digitChar false d ≠ '0' :=
      (by decide +kernel : ∀ d : Fin 10, 0 < d.val → digitChar false d.val ≠ '0') ⟨d, hd10⟩ hd0
    have hf : t.filter (· != '_') = t :=
      List.filter_eq_self.mpr fun c hc => by simpa using isDigit_ne (ht c hc) rfl
    refine (scan_numeral pos hsg (hall _ (by simp)) [] t rest (fun x hx => isDigit_notWs (ht x hx)) hr
      (radixPrefix_none _ _ _ hne0) (by simp [hne0]) (ds := digitChar false d :: t) (by simp [hf])
      (by simp) hv).trans ?_
    rw [hval, if_pos hi]; rfl

end Xeh.Lex
