/-
Compiling a source leaves the data stack exactly as it found it.  (`Ext` already says: what was there is still there
underneath, and every variable has its value; here: nothing is left on top.)  An invariant of the token loop with two
levels: between meta blocks the session is at the source's base level — where only the compiler works, which does not
touch the data stack — and the stack is the one the source was given; inside a block opened from there it is an
extension of the session at the block's `#(` (whose stack was that one), and the block theorems
(Proofs/SessionBlock.lean) give the stack back when the block closes.
-/
import XehModel.Proofs.SessionBlock
import XehModel.Proofs.SessionAligned

namespace Xeh.Session
open Xeh Xeh.Mach Xeh.Compile Xeh.Session.Sess

/-- at the base level of `s`'s source, or inside a block opened at `s0` from the base level -/
def Level (s x : Sess) : Prop :=
  (x.nested.length = s.nested.length + 1 ∧ x.m.ds = s.m.ds) ∨
    ∃ s0, s0.nested.length = s.nested.length + 1 ∧ s0.m.ds = s.m.ds ∧ s0.m.ctx.mode ≠ .metaEval ∧ Ext .metaEval s0 x

/-- `x` is reading `s`'s source -/
structure Quiet (s x : Sess) : Prop where
  ext : Ext .compile s x
  al : AL x
  level : Level s x

variable {s x : Sess}

theorem Quiet.setTok (h : Quiet s x) (i : Nat) : Quiet s { x with lastTok := i } :=
  ⟨ext_lastTok i h.ext, h.al, h.level.imp id fun ⟨s0, a, b, c, d⟩ => ⟨s0, a, b, c, ext_lastTok i d⟩⟩

theorem Quiet.metaRun (h : Quiet s x) (fuel : Nat) : (x.metaRun fuel).All (Quiet s) (fun _ => True) (fun _ => True) := by
  have hE := sok_metaRun h.ext fuel
  have hA := al_metaRun h.al fuel
  cases hr : x.metaRun fuel with
  | ok y =>
    rw [hr] at hE hA
    refine ⟨hE, hA, ?_⟩
    rcases h.level with ⟨hb, hds⟩ | ⟨s0, a, b, c, hx⟩
    · rw [metaRun_noop x fuel (by rw [(h.ext.chain.base_of_len hb).1]; decide)] at hr
      cases hr
      exact .inl ⟨hb, hds⟩
    · have := sok_metaRun hx fuel
      rw [hr] at this
      exact .inr ⟨s0, a, b, c, this⟩
  | _ => trivial

theorem Quiet.act (h : Quiet s x) (fuel : Nat) (k : Kind) : (act fuel x k).All (Quiet s) (fun _ => True) (fun _ => True) := by
  have hE := sok_iff.mp (sok_act h.ext fuel k fun _ => .inl (by decide))
  have hA := al_act h.al fuel k
  cases hr : Session.act fuel x k with
  | ok y =>
    rw [hr] at hE hA
    refine ⟨hE, hA, ?_⟩
    rcases h.level with ⟨hb, hds⟩ | ⟨s0, a, b, c, hx⟩
    · -- at the base level only the compiler works
      have hne : x.m.ctx.mode ≠ .metaEval := by rw [(h.ext.chain.base_of_len hb).1]; decide
      have ofC : ∀ r, x.ofC r = .ok y → y.nested = x.nested ∧ y.m.ds = x.m.ds := fun r e => by
        cases r <;> cases e
        exact ⟨rfl, rfl⟩
      have keep : y.nested = x.nested ∧ y.m.ds = x.m.ds → Level s y := fun e => Or.inl ⟨by rw [e.1]; exact hb, by rw [e.2]; exact hds⟩
      cases k with
      | emit op => cases hr; exact .inl ⟨hb, hds⟩
      | openMeta => cases hr; exact .inr ⟨x, hb, hds, hne, ext_open_block ⟨h.ext.wf, h.ext.fs, h.al⟩ hne⟩
      | closeMeta => rw [show Session.act fuel x .closeMeta = x.nestedEnd fuel from rfl, nestedEnd_outside x fuel hne] at hr; cases hr
      | const name => rw [show Session.act fuel x (.const name) = x.constDef name from rfl, constDef_outside x name hne] at hr; cases hr
      | noName => cases hr
      | late _ | named _ _ | imm _ | word _ => exact keep (ofC _ hr)
    · by_cases hk : k = .closeMeta ∧ x.nested.length = s0.nested.length + 1
      · -- the `#)` of the block opened at `s0`
        obtain ⟨rfl, hd⟩ := hk
        obtain ⟨hp, hc⟩ := nestedEnd_ok hr
        obtain ⟨⟨_, c2, _, c4, _⟩, _⟩ := block_close_full fuel c hx hd hp hc
        exact .inl ⟨by rw [c2]; exact a, c4.trans b⟩
      · have := sok_act hx fuel k fun e => .inr fun hd => hk ⟨e, hd⟩
        rw [hr] at this
        exact .inr ⟨s0, a, b, c, this⟩
  | _ => trivial

theorem compile_is_quiet (fuel : Nat) (toks : List Tok) (s s' : Sess) (idle : Idle s)
    (h : s.buildSource fuel .compile toks = .done s') : s'.m.ds = s.m.ds := by
  obtain ⟨s2, hg, _, hnest, rfl⟩ := compile_done idle h
  show s2.m.ds = s.m.ds
  have q := build1_all fuel (fun k _ h => Quiet.act h fuel k) (fun _ h => Quiet.metaRun h fuel) (fun i _ h => Quiet.setTok h i)
    (fun _ _ => trivial) toks (s.contextOpen .compile) ⟨ext_open idle .compile (by decide), idle.dmap, .inl ⟨by simp [Sess.contextOpen], rfl⟩⟩
  rw [hg] at q
  rcases q.level with ⟨_, hds⟩ | ⟨s0, a, _, _, hx⟩
  · exact hds
  · have := hx.chain.nested.2
    rw [hnest, List.length_cons] at this
    omega

end Xeh.Session
