/-
One token of source, as both token loops see it — `compileToks`, and the session's `tokens` (Proofs/SessionLoop.lean):
classify the token at the head, which reads the pending flows and the dictionary and nothing else, then act on it.
`cact` is the compiler's act; the session's differs from it in the words that are the session's alone.
-/
import XehModel.Model.Compile

namespace Xeh.Compile
open CState

/-- what the token at the head asks for -/
inductive Kind where
  /-- a literal or a local: one instruction -/
  | emit (op : Op)
  | openMeta
  | closeMeta
  | const (name : String)
  | late (name : String)
  /-- the other words that read a name -/
  | named (n name : String)
  | imm (n : String)
  | word (w : String)
  /-- a word that reads a name, and no name follows -/
  | noName

/-- the tokens read; `noName` leaves the index alone -/
def Kind.width : Kind → Nat
  | .const _ => 2
  | .late _ => 2
  | .named _ _ => 2
  | .noName => 0
  | _ => 1

/-- the token blamed while the loop acts: the name, for the words that have read one (`late` excepted) -/
def Kind.tok (i : Nat) : Kind → Nat
  | .const _ => i + 1
  | .named _ _ => i + 1
  | _ => i

def classify (vis : List Flow) (dict : List (String × Entry)) : Tok → List Tok → Kind
  | .lit c, _ => .emit (Mach.loadValueOp c)
  | .word w, rest =>
    match (CState.topFun vis).bind fun ff => CState.rposition w ff.locals with
    | some i => .emit (.loadLocal i)
    | none =>
      match dict.lookup w with
      | some (.native true n) =>
        if n == "#(" then .openMeta
        else if n == "#)" then .closeMeta
        else if n == "const" || takesName n then
          match rest with
          | .word name :: _ => if n == "const" then .const name else if n == "late" then .late name else .named n name
          | _ => .noName
        else .imm n
      | _ => .word w

/-- what the compiler does for a token of kind `k` (`c`: the state with its last-token marker already set); the words of
    the session alone are outside its model -/
def cact (c : CState) : Kind → CRes CState
  | .emit op => .ok (c.emit op)
  | .openMeta => .unsupported "#("
  | .closeMeta => .unsupported "#)"
  | .const _ => .unsupported "const"
  | .late name => late c name (c.lastTok + 1)
  | .named n name => withName c n name
  | .imm n => immediate c n
  | .word w => buildWord c w
  | .noName => cerr c .expectingName

end Xeh.Compile
