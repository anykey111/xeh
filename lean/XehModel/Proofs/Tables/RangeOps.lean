/-
Tie B, tables (DESIGN §4.2) — the range operations of `Bitstr` (src/bitstr.rs `seek read peek substr split_at`), which every read word of the language goes through (method: Proofs/LeafTables.lean).
-/
import XehModel.Generated.Tables

namespace Xeh.LeafBridge
open Xeh.Generated

/-- Statement by statement, what Model/Bitstr.lean's `seek read peek substr splitAt` are written after (positions are
    ABSOLUTE positions in the buffer — `start()`/`end()` are part of the API —; every result is a clone of the receiver,
    i.e. one more count on the same buffer, with a new range; `read` moves the receiver's own start; an overflowing or
    out-of-range request is `None` and changes nothing):

    | source | model |
    |---|---|
    | `if self.range.start<=pos&&pos<=self.range.end{…s.range.start=pos…}else{None}` | `seek`: `if s.start ≤ pos ∧ pos ≤ s.end_ then (h.incRc s.buf, some { s with start := pos }) else (h, none)` |
    | `checked_add` + `if pos>self.range.end{return None;}` + `result.range.end=pos` + `self.range.start=pos` | `read` |
    | `checked_add` + `if self.range.start<=end&&end<=self.range.end{…s.range.end=end…}` | `peek` |
    | `if start<=end&&self.range.start<=start&&end<=self.range.end{…s.range=start..end…}` | `substr` |
    | `checked_add` + `if mid>self.range.end{return None;}` + two clones | `splitAt` | -/
def expectedRangeOps : List (String × String) := [
  ("seek", "if self.range.start<=pos&&pos<=self.range.end{let mut s=self.clone();s.range.start=pos;Some(s)}else{None}"),
  ("read", "let pos=self.range.start.checked_add(num_bits)?"),
  ("read", "if pos>self.range.end{return None;}"),
  ("read", "let mut result=self.clone()"),
  ("read", "result.range.end=pos"),
  ("read", "self.range.start=pos"),
  ("read", "Some(result)"),
  ("peek", "let end=self.start().checked_add(num_bits)?"),
  ("peek", "if self.range.start<=end&&end<=self.range.end{let mut s=self.clone();s.range.end=end;Some(s)}else{None}"),
  ("substr", "if start<=end&&self.range.start<=start&&end<=self.range.end{let mut s=self.clone();s.range=start..end;Some(s)}else{None}"),
  ("split_at", "let mid=self.range.start.checked_add(bit_index)?"),
  ("split_at", "if mid>self.range.end{return None;}"),
  ("split_at", "let mut left=self.clone()"),
  ("split_at", "left.range.end=mid"),
  ("split_at", "let mut right=self.clone()"),
  ("split_at", "right.range.start=mid"),
  ("split_at", "Some((left,right))")
]

theorem range_ops_match_source : src_range_ops = expectedRangeOps := rfl

end Xeh.LeafBridge
