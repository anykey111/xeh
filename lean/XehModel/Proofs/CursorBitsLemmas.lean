/-
The list-level number codecs of Model/CursorBits.lean are inverse to each other (`toUint (fromInt v n) = v mod 2^n` in
both byte orders for n ≤ 128).

The value functions of this layer (`beVal`, `beBits`, `leVal`, `bytesToBits`) are those of Model/Bits.lean written as
loops; each is related to its counterpart once, and the arithmetic is done there.
-/
import XehModel.Model.CursorBits
import XehModel.Proofs.BitsLemmas

namespace Xeh.Cur

theorem beBits_eq (n x : Nat) : beBits n x = Bits.bitsOfNat n x := by
  induction n with
  | zero => rfl
  | succ n ih => rw [beBits, Bits.bitsOfNat, ih]

theorem beVal_go (bs : List Bool) (a : Nat) :
    bs.foldl (fun a b => 2 * a + b.toNat) a = a * 2 ^ bs.length + Bits.beVal bs := by
  induction bs generalizing a with
  | nil => simp
  | cons b t ih =>
    rw [List.foldl_cons, ih, Bits.beVal_cons, List.length_cons, Nat.pow_succ, Nat.add_mul, Nat.mul_comm 2 a,
      Nat.mul_assoc, Nat.mul_comm 2, Nat.add_assoc]

theorem beVal_eq (bs : List Bool) : beVal bs = Bits.beVal bs := by
  rw [beVal, beVal_go, Nat.zero_mul, Nat.zero_add]

theorem leValF_eq : ∀ (f : Nat) (bs : List Bool), bs.length ≤ f → leValF f bs = Bits.leVal bs := by
  intro f
  induction f with
  | zero =>
    intro bs h
    obtain rfl : bs = [] := List.eq_nil_of_length_eq_zero (by omega)
    rw [Bits.leVal_nil]; rfl
  | succ f ih =>
    intro bs h
    rw [leValF]
    by_cases hn : bs = []
    · subst hn; rw [Bits.leVal_nil]; rfl
    · rw [if_neg (by simpa using hn), beVal_eq, ih _ (by rw [List.length_drop]; omega), Bits.leVal_of_ne hn]

theorem leVal_eq (bs : List Bool) : leVal bs = Bits.leVal bs := leValF_eq _ _ (Nat.le_refl _)

theorem chunks8_eq : ∀ (f : Nat) (bs : List Bool), bs.length ≤ f → chunks8 f bs = Bits.chunks8 bs
  | 0, bs, h => by
    obtain rfl : bs = [] := List.eq_nil_of_length_eq_zero (by omega)
    rw [Bits.chunks8_nil]; rfl
  | f + 1, bs, h => by
    rw [chunks8]
    by_cases hn : bs = []
    · subst hn; rw [Bits.chunks8_nil]; rfl
    · rw [if_neg (by simpa using hn), chunks8_eq f _ (by rw [List.length_drop]; omega), Bits.chunks8_of_ne hn]

theorem bytes8_eq (bs : List Bool) : bytes8 bs = Bits.toBytesPad bs := by
  rw [bytes8, chunks8_eq _ _ (Nat.le_refl _), funext beVal_eq]; rfl

theorem bytesToBits_eq (l : List Nat) : bytesToBits l = Bits.ofBytes l := by
  unfold bytesToBits Bits.ofBytes
  rw [funext (beBits_eq 8)]

/-- the two layers write the sign test the other way round, and this one answers 0 for width 0 -/
theorem sext_eq (n u : Nat) (hn : 0 < n) : sext n u = Bits.sext n u := by
  unfold sext Bits.sext
  rw [if_neg (Nat.ne_of_gt hn)]
  by_cases hge : u ≥ 2 ^ (n - 1)
  · rw [if_pos hge, if_neg (Nat.not_lt.mpr hge)]
  · rw [if_neg hge, if_pos (Nat.not_le.mp hge)]

theorem beVal_nil : beVal [] = 0 := rfl

theorem beVal_lt (bs : List Bool) : beVal bs < 2 ^ bs.length := beVal_eq bs ▸ Bits.beVal_lt bs

@[simp] theorem beBits_length (n x : Nat) : (beBits n x).length = n := by
  rw [beBits_eq, Bits.bitsOfNat_length]

theorem beVal_beBits (n x : Nat) : beVal (beBits n x) = x % 2 ^ n := by
  rw [beVal_eq, beBits_eq, Bits.beVal_bitsOfNat]

@[simp] theorem chunkBits_length (x : Int) (k : Nat) : (chunkBits x k).length = k := by simp [chunkBits]

theorem chunkBits_shr (v : Int) (j k : Nat) (h : j + k ≤ 128) :
    chunkBits (v >>> j) k = Bits.bitsOfNat k ((v % 2 ^ 128).toNat / 2 ^ j) := by
  rw [chunkBits, beBits_eq, Int.shiftRight_eq_div_pow, Int.natCast_pow, Int.cast_ofNat_Int,
    Bits.ediv_emod_toNat v j k 128 h, Bits.bitsOfNat_mod]

theorem fromIntBEgo_zero (v : Int) (f : Nat) : fromIntBEgo v f 0 = [] := by
  cases f <;> simp [fromIntBEgo]

theorem fromIntBEgo_length (v : Int) : ∀ f i, i ≤ f → (fromIntBEgo v f i).length = i := by
  intro f
  induction f with
  | zero => intro i hi; simp [fromIntBEgo]; omega
  | succ f ih =>
    intro i hi
    simp only [fromIntBEgo]
    split
    · simp_all
    · simp only [List.length_append, chunkBits_length]
      rw [ih _ (by omega)]; omega

theorem mod0 (v : Int) : (v % 2 ^ 0).toNat = 0 := by simp [Int.emod_one]

theorem fromIntBEgo_eq (v : Int) : ∀ f i, i ≤ f → i ≤ 128 →
    fromIntBEgo v f i = Bits.bitsOfNat i (v % 2 ^ 128).toNat := by
  intro f
  induction f with
  | zero => intro i hi _; obtain rfl : i = 0 := by omega
            rfl
  | succ f ih =>
    intro i hi h128
    rw [fromIntBEgo]
    split
    · rename_i h0; subst h0; rfl
    · simp only
      rw [Nat.mod_eq_of_lt (by omega : i - min i 8 < 128), chunkBits_shr v _ _ (by omega),
        ih _ (by omega) (by omega), ← Bits.bitsOfNat_split, show min i 8 + (i - min i 8) = i by omega]

theorem fromIntLEgo_done (v : Int) (n f i : Nat) (h : n ≤ i) : fromIntLEgo v n f i = [] := by
  cases f <;> simp [fromIntLEgo]; omega

theorem fromIntLEgo_length (v : Int) (n : Nat) : ∀ f i, n - i ≤ f → (fromIntLEgo v n f i).length = n - i := by
  intro f
  induction f with
  | zero => intro i hi; simp [fromIntLEgo]; omega
  | succ f ih =>
    intro i hi
    simp only [fromIntLEgo]
    split
    · simp only [List.length_append, chunkBits_length]
      rw [ih _ (by omega)]; omega
    · simp; omega

theorem leVal_fromIntLEgo (v : Int) (n : Nat) (hn : n ≤ 128) : ∀ f i, n - i ≤ f → i ≤ n →
    Bits.leVal (fromIntLEgo v n f i) = (v % 2 ^ 128).toNat / 2 ^ i % 2 ^ (n - i) := by
  intro f
  induction f with
  | zero =>
    intro i hi hin
    rw [show n - i = 0 by omega, Nat.pow_zero, Nat.mod_one]; exact Bits.leVal_nil
  | succ f ih =>
    intro i hi hin
    rw [fromIntLEgo]
    split
    · simp only
      rw [Nat.mod_eq_of_lt (by omega : i < 128), chunkBits_shr v _ _ (by omega)]
      by_cases hsmall : n - i ≤ 8
      · rw [Nat.min_eq_left hsmall, fromIntLEgo_done v n f _ (by omega), List.append_nil,
          Bits.leVal_short _ (by rw [Bits.bitsOfNat_length]; exact hsmall), Bits.beVal_bitsOfNat]
      · rw [Nat.min_eq_right (by omega), Bits.leVal_append8 _ _ (Bits.bitsOfNat_length _ _),
          Bits.beVal_bitsOfNat, ih (i + 8) (by omega) (by omega), Nat.pow_add, ← Nat.div_div_eq_div_mul,
          show n - (i + 8) = n - i - 8 by omega, ← Nat.mod_mul, ← Nat.pow_add,
          show 8 + (n - i - 8) = n - i by omega]
    · rw [show n - i = 0 by omega, Nat.pow_zero, Nat.mod_one]; exact Bits.leVal_nil

@[simp] theorem fromInt_length (big : Bool) (v : Int) (n : Nat) : (fromInt big v n).length = n := by
  unfold fromInt fromIntBE fromIntLE
  split
  · exact fromIntBEgo_length v n n (Nat.le_refl _)
  · simpa using fromIntLEgo_length v n n 0 (by omega)

theorem toUint_fromInt (big : Bool) (v : Int) (n : Nat) (h : n ≤ 128) :
    toUint big (fromInt big v n) = (v % 2 ^ n).toNat := by
  unfold toUint fromInt fromIntBE fromIntLE
  split
  · rw [beVal_eq, fromIntBEgo_eq v n n (Nat.le_refl _) h, Bits.beVal_bitsOfNat, Bits.emod_toNat_mod v n 128 h]
  · rw [leVal_eq, leVal_fromIntLEgo v n h n 0 (by omega) (Nat.zero_le _), Nat.pow_zero, Nat.div_one,
      Nat.sub_zero, Bits.emod_toNat_mod v n 128 h]

theorem toInt_fromInt (big : Bool) (v : Int) (n : Nat) (h : n ≤ 128) :
    toInt big (fromInt big v n) = sext n (v % 2 ^ n).toNat := by
  unfold toInt
  rw [fromInt_length, toUint_fromInt big v n h]

@[simp] theorem bytesToBits_nil : bytesToBits [] = [] := rfl

@[simp] theorem bytesToBits_cons (b : Nat) (l : List Nat) : bytesToBits (b :: l) = beBits 8 b ++ bytesToBits l := by
  simp [bytesToBits]

theorem bytesToBits_append (a b : List Nat) : bytesToBits (a ++ b) = bytesToBits a ++ bytesToBits b := by
  simp [bytesToBits]

@[simp] theorem bytesToBits_length (l : List Nat) : (bytesToBits l).length = 8 * l.length := by
  rw [bytesToBits_eq, Bits.ofBytes_length]

end Xeh.Cur
