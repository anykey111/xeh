/-
The number codecs of the L1 model: `to_int` is the two's-complement reading of `to_uint`; the byte-level
`from_int` writes the bits of the list-level `from_int` of Model/CursorBits.lean (both orders, every width);
standard byte layouts for byte-multiple widths; float bit patterns.
-/
import XehModel.Proofs.BitstrHeap
import XehModel.Proofs.CursorBitsLemmas

namespace Xeh.Bitstr
open Xeh Xeh.Bits

theorem not_and_mask (u len : Nat) (hl : len < 128) (hu : u < 2 ^ len) :
    (2 ^ 128 - 1 - u) &&& (2 ^ len - 1) = 2 ^ len - 1 - u := by
  rw [Nat.and_two_pow_sub_one_eq_mod]
  have hq : (2 : Nat) ^ 128 = 2 ^ len * 2 ^ (128 - len) := by
    rw [← Nat.pow_add]; congr 1; omega
  have hq0 : 2 ^ (128 - len) ≠ 0 := Nat.ne_of_gt (Nat.two_pow_pos _)
  obtain ⟨q', hq'⟩ := Nat.exists_eq_succ_of_ne_zero hq0
  rw [hq', Nat.mul_succ] at hq
  have hP := Nat.two_pow_pos len
  rw [hq]
  have : 2 ^ len * q' + 2 ^ len - 1 - u = 2 ^ len * q' + (2 ^ len - 1 - u) := by omega
  rw [this, Nat.mul_add_mod, Nat.mod_eq_of_lt (by omega)]

theorem View.toInt_spec (v : View) (o : Byteorder) (u : Nat) (hu : v.toUint o = .ok u)
    (hlt : u < 2 ^ v.len) (h1 : 1 ≤ v.len) (h128 : v.len ≤ 128) :
    v.toInt o = .ok (sext v.len u) := by
  unfold View.toInt
  rw [hu]
  simp only
  have hne : (v.len == 0) = false := by simp; omega
  rw [hne]
  simp only [Bool.false_eq_true, if_false]
  by_cases hbig : v.len ≥ 128
  · have h128' : v.len = 128 := by omega
    rw [if_pos hbig, h128']
    unfold sext
    rfl
  · rw [if_neg hbig]
    have hl : v.len < 128 := by omega
    rw [low_mask 128 v.len h128, and_two_pow', testBit_top u v.len h1 hlt]
    unfold sext
    by_cases hs : 2 ^ (v.len - 1) ≤ u
    · have hp := Nat.two_pow_pos (v.len - 1)
      simp only [hs, decide_true, if_true]
      rw [if_pos hp, if_neg (by omega), not_and_mask u v.len hl hlt]
      congr 1
      have : 2 ^ v.len - 1 - u + 1 = 2 ^ v.len - u := by omega
      have h2 : ((2 ^ v.len : Nat) : Int) = (2 : Int) ^ v.len := by simp
      rw [this, ← h2]
      omega
    · simp only [hs, decide_false]
      rw [if_neg (by simp), if_pos (by omega)]


theorem shrByte_eq (val : Int) (j : Nat) : shrByte val j = ((val >>> (j % 128)) % 2 ^ 8).toNat := by
  unfold shrByte
  rw [show j % 2 ^ 32 % 128 = j % 128 by omega, Int.shiftRight_eq_div_pow, Int.natCast_pow, Int.cast_ofNat_Int]
  rfl

/-- the byte `from_int` pushes for a chunk of `k` bits: `(x as u8) << (8 - k)` keeps the `k` low bits of `x` -/
theorem chunk_byte (val : Int) (j k : Nat) (hk : k ≤ 8) :
    (shrByte val j <<< (8 - k)) % 256 = beVal (Cur.chunkBits (val >>> (j % 128)) k) <<< (8 - k) := by
  rw [Cur.chunkBits, Cur.beBits_eq, beVal_bitsOfNat, Nat.mod_eq_of_lt (emod_toNat_lt _ k), shrByte_eq,
    ← emod_toNat_mod _ k 8 hk, Nat.shiftLeft_eq, Nat.shiftLeft_eq,
    show (256 : Nat) = 2 ^ k * 2 ^ (8 - k) by rw [← Nat.pow_add, show k + (8 - k) = 8 by omega],
    Nat.mul_mod_mul_right]

/-- every width, also above 128 where `wrapping_shr` reduces the shift count -/
theorem fromIntBE_pack (val : Int) : ∀ fuel i, i ≤ fuel → fromIntBE val fuel i = pack (Cur.fromIntBEgo val fuel i) := by
  intro fuel
  induction fuel with
  | zero => intro i _; exact pack_nil.symm
  | succ fuel ih =>
    intro i hi
    rw [fromIntBE, Cur.fromIntBEgo]
    by_cases h0 : i = 0
    · subst h0; exact pack_nil.symm
    · rw [if_pos (by omega), if_neg h0]
      simp only
      rw [pack_cons_group _ _ (by intro h; have := congrArg List.length h; simp at this; omega) (by simp; omega)
          (by by_cases h8 : 8 ≤ i
              · exact .inl (by simp; omega)
              · exact .inr (by rw [show i - min i 8 = 0 by omega]; exact Cur.fromIntBEgo_zero val fuel)),
        Cur.chunkBits_length, chunk_byte _ _ _ (by omega), ih _ (by omega)]

theorem fromIntLE_pack (val : Int) (N : Nat) : ∀ fuel i, N - i ≤ fuel →
    fromIntLE val N fuel i = pack (Cur.fromIntLEgo val N fuel i) := by
  intro fuel
  induction fuel with
  | zero => intro i _; exact pack_nil.symm
  | succ fuel ih =>
    intro i hi
    rw [fromIntLE, Cur.fromIntLEgo]
    by_cases h0 : i < N
    · rw [if_pos h0, if_pos h0]
      simp only
      rw [pack_cons_group _ _ (by intro h; have := congrArg List.length h; simp at this; omega) (by simp; omega)
          (by by_cases h8 : 8 ≤ N - i
              · exact .inl (by simp; omega)
              · exact .inr (Cur.fromIntLEgo_done val N fuel _ (by omega))),
        Cur.chunkBits_length, chunk_byte _ _ _ (by omega), ih _ (by omega)]
    · rw [if_neg h0, if_neg h0]; exact pack_nil.symm

theorem fromIntBytes_eq (v : Int) (n : Nat) (o : Byteorder) :
    fromIntBytes v n o = pack (Cur.fromInt (o = .big) v n) := by
  cases o
  · exact fromIntLE_pack v n n 0 (by omega)
  · exact fromIntBE_pack v n n (Nat.le_refl _)

theorem fromInt_WF_bits (h : Heap) (v : Int) (n : Nat) (o : Byteorder) :
    WF (fromInt h v n o).1 (fromInt h v n o).2 ∧ bits (fromInt h v n o).1 (fromInt h v n o).2 = Cur.fromInt (o = .big) v n := by
  have := alloc_pack h (Cur.fromInt (o = .big) v n)
  rwa [Cur.fromInt_length, ← fromIntBytes_eq] at this

theorem fromInt_WF (h : Heap) (v : Int) (n : Nat) (o : Byteorder) : WF (fromInt h v n o).1 (fromInt h v n o).2 :=
  (fromInt_WF_bits h v n o).1

theorem fromInt_bits (h : Heap) (v : Int) (n : Nat) (o : Byteorder) :
    bits (fromInt h v n o).1 (fromInt h v n o).2 = Cur.fromInt (o = .big) v n :=
  (fromInt_WF_bits h v n o).2

/-- `val as u128` -/
def asU128 (val : Int) : Nat := (val % 2 ^ 128).toNat

theorem shrByte_spec (val : Int) (k : Nat) (hk : k + 8 ≤ 128) :
    shrByte val k = asU128 val / 2 ^ k % 256 := by
  rw [shrByte_eq, Nat.mod_eq_of_lt (by omega), Int.shiftRight_eq_div_pow, Int.natCast_pow, Int.cast_ofNat_Int,
    ediv_emod_toNat val k 8 128 hk]
  rfl

theorem shrByte_byte (val : Int) (j : Nat) (hj : j < 16) : shrByte val (8 * j) = asU128 val / 256 ^ j % 256 := by
  rw [shrByte_spec _ _ (by omega), Nat.pow_mul]

theorem fromIntLE_bytes (val : Int) (K : Nat) (hK : K ≤ 16) : ∀ fuel j, 8 * (K - j) ≤ fuel → j ≤ K →
    fromIntLE val (8 * K) fuel (8 * j) = leBytes (K - j) (asU128 val / 256 ^ j) := by
  intro fuel
  induction fuel with
  | zero => intro j h _; rw [show K - j = 0 by omega]; rfl
  | succ fuel ih =>
    intro j hf hj
    rw [fromIntLE]
    by_cases h0 : j < K
    · rw [if_pos (by omega)]
      simp only
      rw [show min (8 * K - 8 * j) 8 = 8 by omega, show 8 * j + 8 = 8 * (j + 1) by omega,
        ih (j + 1) (by omega) (by omega), show K - j = (K - (j + 1)) + 1 by omega, leBytes, Nat.sub_self,
        Nat.shiftLeft_zero, shrByte_byte _ _ (by omega), Nat.mod_mod, Nat.div_div_eq_div_mul, ← Nat.pow_succ]
    · rw [if_neg (by omega), show K - j = 0 by omega]; rfl

theorem fromIntBE_bytes (val : Int) : ∀ fuel j, 8 * j ≤ fuel → j ≤ 16 →
    fromIntBE val fuel (8 * j) = beBytes j (asU128 val) := by
  intro fuel
  induction fuel with
  | zero => intro j h _; obtain rfl : j = 0 := by omega
            rfl
  | succ fuel ih =>
    intro j hf hj
    rw [fromIntBE]
    cases j with
    | zero => rfl
    | succ j =>
      rw [if_pos (by omega)]
      simp only
      rw [show min (8 * (j + 1)) 8 = 8 by omega, show 8 * (j + 1) - 8 = 8 * j by omega, beBytes_succ,
        ih j (by omega) (by omega), Nat.sub_self, Nat.shiftLeft_zero, shrByte_byte _ _ (by omega), Nat.mod_mod]

theorem beBytesVal_snoc (l : List Nat) (b : Nat) : View.beBytesVal (l ++ [b]) = View.beBytesVal l * 256 + b := by
  simp [View.beBytesVal, List.foldl_append]

theorem beBytesVal_beBytes (k x : Nat) : View.beBytesVal (beBytes k x) = x % 256 ^ k := by
  induction k generalizing x with
  | zero => simp [beBytes, leBytes, View.beBytesVal, Nat.mod_one]
  | succ k ih =>
    have : beBytes (k + 1) x = beBytes k (x / 256) ++ [x % 256] := by
      simp [beBytes, leBytes]
    rw [this, beBytesVal_snoc, ih, Nat.pow_succ, Nat.mul_comm (256 ^ k), Nat.mod_mul]
    omega

theorem toFloatBits_fresh (bs : List Nat) (hb : ∀ b ∈ bs, b < 256) (o : Byteorder) (k : Nat) (hk : bs.length = k) :
    View.toFloatBits ⟨bs, 0, bs.length * 8⟩ k o =
      .ok (match o with | .big => View.beBytesVal bs | .little => View.beBytesVal bs.reverse) := by
  subst hk
  have wf : View.WF ⟨bs, 0, bs.length * 8⟩ := ⟨Nat.zero_le _, by simp; omega, hb⟩
  unfold View.toFloatBits
  rw [View.iter8_spec _ wf]
  simp only
  have hbits : View.bits ⟨bs, 0, bs.length * 8⟩ = ofBytes bs := by
    unfold View.bits allBits
    have : bs.length * 8 = (ofBytes bs).length := by rw [ofBytes_length]; omega
    simp only; rw [this, slice_full]
  rw [hbits, iter8_ofBytes bs hb]
  unfold View.firstBytes
  rw [List.map_map, show (Prod.fst ∘ fun b : Nat => (b, 8)) = id from rfl, List.map_id, List.take_left' rfl]
  cases o <;> rfl

theorem floatBits_roundtrip (h : Heap) (k x : Nat) (hx : x < 256 ^ k) (o : Byteorder) :
    ((fromVec h (floatBytes k x o)).1.view (fromVec h (floatBytes k x o)).2).toFloatBits k o = .ok x := by
  unfold fromVec
  simp only
  rw [alloc_view]
  have hlt : ∀ b ∈ floatBytes k x o, b < 256 := by
    cases o
    · exact leBytes_lt k x
    · intro b hb; exact leBytes_lt k x b (List.mem_reverse.mp hb)
  have hlen : (floatBytes k x o).length = k := by
    cases o
    · exact leBytes_length k x
    · exact (List.length_reverse).trans (leBytes_length k x)
  rw [toFloatBits_fresh _ hlt o k hlen]
  cases o
  · show Outcome.ok (View.beBytesVal (beBytes k x)) = _
    rw [beBytesVal_beBytes, Nat.mod_eq_of_lt hx]
  · show Outcome.ok (View.beBytesVal (beBytes k x)) = _
    rw [beBytesVal_beBytes, Nat.mod_eq_of_lt hx]

theorem mod_pow128 {u n : Nat} (h : u < 2 ^ n) (hn : n ≤ 128) : u % 2 ^ 128 = u :=
  Nat.mod_eq_of_lt (Nat.lt_of_lt_of_le h (Nat.pow_le_pow_right (by decide) hn))

theorem toInt_congr (v w : View) (o : Byteorder) (hu : v.toUint o = w.toUint o) (hl : v.len = w.len) :
    v.toInt o = w.toInt o := by
  unfold View.toInt; rw [hu, hl]

end Xeh.Bitstr
