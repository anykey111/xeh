/-
C18 — text encodings of binary data round-trip.

  "For every byte string, base32>, base32hex>, base64> and zero85> applied to the output of base32,
   base32hex, base64 and zero85 return the original bytes, for every length; decoding text that is
   not valid in the alphabet yields nil rather than an error or a wrong value, and encoding accepts
   the same inputs as >bitstr."

What the theorems talk about:

* `Model/Enc.lean` models the three dependency crates (base32-0.4.0, base64-0.21.2 STANDARD engine,
  z85-3.0.5) from their source as radix regrouping plus each crate's own padding / tail / leniency
  rules, and xeh's own part — the glue of src/base_ext.rs (`into_bitstr`, `Bitstr::bytestr`, nil on
  every decode failure, the `"#####"` guard in front of `z85::decode`). The crate models are
  validated against the compiled crates by the correspondence run; they are not extracted from the
  crates' source.
* byte strings are `List Nat` with every element `< 256`; the round-trip theorems hold for EVERY such
  list, hence for every length and every padding / tail case.
* word-level statements quantify over every stack `s` underneath and every hidden-prefix length
  `h ≤ |s|`.

Findings recorded as theorems: `z85_crate_panics` (the crate's decoder panics on a last chunk of five
padding marks — the reason for the guard) and `zero85_decode_never_panics` (with the guard, no text
can reach that path).
-/
import XehModel.Proofs.EncWords


namespace Xeh.C18
open Xeh Prog Xeh.Enc

/-! ### the word table is what the theorems below talk about -/

theorem table_words :
    encWord "base32" = some (encodeWord base32Enc) ∧ encWord "base32>" = some (decodeWord base32Dec) ∧
    encWord "base32hex" = some (encodeWord base32hexEnc) ∧ encWord "base32hex>" = some (decodeWord base32hexDec) ∧
    encWord "base64" = some (encodeWord b64Encode) ∧ encWord "base64>" = some (decodeWord base64Dec) ∧
    encWord "zero85" = some (encodeWord z85Encode) ∧ encWord "zero85>" = some (decodeWord z85Guarded) := by
  simp [encWord, encTable, List.lookup]

/-- `k` big-endian digits in base `b` determine every number below `b^k` -/
theorem digits_roundtrip (b k n : Nat) (hn : n < b ^ k) : ofDigits b (toDigits b k n) = n :=
  ofDigits_toDigits b k n hn

/-- … and every list of `k` digits is the digit list of its value -/
theorem digits_roundtrip_inv (b : Nat) (ds : List Nat) (hd : ∀ d ∈ ds, d < b) :
    toDigits b ds.length (ofDigits b ds) = ds :=
  toDigits_ofDigits b ds hd

/-! ### decode (encode bytes) = bytes, for every byte list (the crates' functions) -/

theorem base32_roundtrip (bytes : List Nat) (hb : ∀ x ∈ bytes, x < 256) :
    b32Decode rfcInv (b32Encode rfcAlphabet true bytes) = some bytes :=
  b32_roundtrip_gen rfc_ok true (fun _ => rfc_pad) bytes hb

theorem base32hex_roundtrip (bytes : List Nat) (hb : ∀ x ∈ bytes, x < 256) :
    b32Decode crockInv (b32Encode crockAlphabet false bytes) = some bytes :=
  b32_roundtrip_gen crock_ok false (by simp) bytes hb

theorem base64_roundtrip (bytes : List Nat) (hb : ∀ x ∈ bytes, x < 256) :
    b64Decode (b64Encode bytes) = some bytes :=
  b64_roundtrip_fn bytes hb

/-- the crate alone … -/
theorem zero85_roundtrip (bytes : List Nat) (hb : ∀ x ∈ bytes, x < 256) :
    z85Decode (z85Encode bytes) = .bytes bytes :=
  z85_roundtrip_fn bytes hb

/-- … and behind xeh's guard (an encoder output never ends in a chunk of five `#`) -/
theorem zero85_roundtrip_guarded (bytes : List Nat) (hb : ∀ x ∈ bytes, x < 256) :
    z85Guarded (z85Encode bytes) = .bytes bytes :=
  z85Guarded_of_bytes _ _ (z85_roundtrip_fn bytes hb)

/-! ### the words: for EVERY operand that `>bitstr` turns into a whole number of bytes — string,
    vector of bytes / strings / bit-strings / nested vectors, bit-string — the encode word leaves a
    string and the decode word turns that string back into exactly the bits `>bitstr` yields -/

variable (c : Cell) (bits : List Bool) (s : List Cell) (h : Nat)

theorem base32_words_roundtrip (hc : bitstrConcat c = .ok bits) (hm : bits.length % 8 = 0) (hh : h ≤ s.length) :
    ∃ t, runStack (encodeWord base32Enc) h (c :: s) = .ok (.str t :: s) ∧
         runStack (decodeWord base32Dec) h (.str t :: s) = .ok (.bitstr bits :: s) :=
  words_roundtrip pair_base32 c bits hc hm s h hh

theorem base32hex_words_roundtrip (hc : bitstrConcat c = .ok bits) (hm : bits.length % 8 = 0) (hh : h ≤ s.length) :
    ∃ t, runStack (encodeWord base32hexEnc) h (c :: s) = .ok (.str t :: s) ∧
         runStack (decodeWord base32hexDec) h (.str t :: s) = .ok (.bitstr bits :: s) :=
  words_roundtrip pair_base32hex c bits hc hm s h hh

theorem base64_words_roundtrip (hc : bitstrConcat c = .ok bits) (hm : bits.length % 8 = 0) (hh : h ≤ s.length) :
    ∃ t, runStack (encodeWord b64Encode) h (c :: s) = .ok (.str t :: s) ∧
         runStack (decodeWord base64Dec) h (.str t :: s) = .ok (.bitstr bits :: s) :=
  words_roundtrip pair_base64 c bits hc hm s h hh

theorem zero85_words_roundtrip (hc : bitstrConcat c = .ok bits) (hm : bits.length % 8 = 0) (hh : h ≤ s.length) :
    ∃ t, runStack (encodeWord z85Encode) h (c :: s) = .ok (.str t :: s) ∧
         runStack (decodeWord z85Guarded) h (.str t :: s) = .ok (.bitstr bits :: s) :=
  words_roundtrip pair_zero85 c bits hc hm s h hh

/-- a bit-string operand that is a byte string (any alignment: the value level has no alignment) comes
    back unchanged -/
theorem bytes_words_roundtrip {enc : List Nat → List Nat} {dec : List Nat → Dec} (P : Pair enc dec)
    (bytes : List Nat) (_hb : ∀ x ∈ bytes, x < 256) (hh : h ≤ s.length) :
    ∃ t, runStack (encodeWord enc) h (.bitstr (bytesToBits bytes) :: s) = .ok (.str t :: s) ∧
         runStack (decodeWord dec) h (.str t :: s) = .ok (.bitstr (bytesToBits bytes) :: s) :=
  words_roundtrip P _ _ (by simp [bitstrConcat, Cell.value]) (by simp [bytesToBits_length]) s h hh

/-! ### what "valid in the alphabet" means for each decoder (bytes of the UTF-8 text) -/

theorem base32_valid_iff : ∀ b, b < 256 →
    ((b32Val rfcInv b).isSome = true ↔ (65 ≤ b ∧ b ≤ 90) ∨ (97 ≤ b ∧ b ≤ 122) ∨ (50 ≤ b ∧ b ≤ 55) ∨ b = 61) := by
  intro b hb
  -- looking up an index beyond the table is what a sweep over all 256 bytes spends its time on
  by_cases h : b < 123
  · clear hb
    revert b
    decide +kernel
  · simp only [b32Val_big rfcInv (by decide) b (by omega), Option.isSome_none, Bool.false_eq_true, false_iff]
    omega

/-- Crockford: digits, letters except `U`/`u` (`O`→0, `I`/`L`→1 accepted), no padding -/
theorem base32hex_valid_iff : ∀ b, b < 256 →
    ((b32Val crockInv b).isSome = true ↔
      (48 ≤ b ∧ b ≤ 57) ∨ (65 ≤ b ∧ b ≤ 90 ∧ b ≠ 85) ∨ (97 ≤ b ∧ b ≤ 122 ∧ b ≠ 117)) := by
  intro b hb
  by_cases h : b < 123
  · clear hb
    revert b
    decide +kernel
  · simp only [b32Val_big crockInv (by decide) b (by omega), Option.isSome_none, Bool.false_eq_true, false_iff]
    omega

theorem base64_valid_iff : ∀ b, b < 256 →
    ((b64Val b).isSome = true ↔ b ∈ b64Alphabet) :=
  fun b hb => b64_ok.valid_iff (b64Val_inv b hb)

theorem zero85_valid_iff : ∀ b, b < 256 →
    ((z85Val b).isSome = true ↔ b ∈ z85Letters) :=
  fun b hb => z85_ok.valid_iff (z85Val_inv b hb)

/-- the alphabets are injective and the decode tables invert them -/
theorem alphabets_inverted :
    (∀ d, d < 32 → b32Val rfcInv (alphaAt rfcAlphabet d) = some d) ∧
    (∀ d, d < 32 → b32Val crockInv (alphaAt crockAlphabet d) = some d) ∧
    (∀ d, d < 64 → b64Val (alphaAt b64Alphabet d) = some d) ∧
    (∀ d, d < 85 → z85Val (alphaAt z85Letters d) = some d) :=
  ⟨fun _ => rfc_ok.val, fun _ => crock_ok.val, fun _ => b64_ok.val, fun _ => z85_ok.val⟩

/-! ### invalid text decodes to nil: a byte outside alphabet ∪ padding anywhere in the string -/

variable (t : List Char)

theorem base32_invalid_is_nil (hc : c.toStr = .ok t) (hbad : ∃ b ∈ utf8Bytes t, b32Val rfcInv b = none)
    (hh : h ≤ s.length) : runStack (decodeWord base32Dec) h (c :: s) = .ok (.nil :: s) :=
  decode_invalid_nil _ c t hc (by simp [base32Dec, b32Decode_invalid rfcInv _ hbad, Dec.ofOption]) s h hh

theorem base32hex_invalid_is_nil (hc : c.toStr = .ok t) (hbad : ∃ b ∈ utf8Bytes t, b32Val crockInv b = none)
    (hh : h ≤ s.length) : runStack (decodeWord base32hexDec) h (c :: s) = .ok (.nil :: s) :=
  decode_invalid_nil _ c t hc (by simp [base32hexDec, b32Decode_invalid crockInv _ hbad, Dec.ofOption]) s h hh

theorem base64_invalid_is_nil (hc : c.toStr = .ok t) (hbad : ∃ b ∈ utf8Bytes t, b64Val b = none ∧ b ≠ 61)
    (hh : h ≤ s.length) : runStack (decodeWord base64Dec) h (c :: s) = .ok (.nil :: s) :=
  decode_invalid_nil _ c t hc (by simp [base64Dec, b64Decode_invalid _ hbad, Dec.ofOption]) s h hh

theorem zero85_invalid_is_nil (hc : c.toStr = .ok t) (hbad : ∃ b ∈ utf8Bytes t, z85Val b = none)
    (hh : h ≤ s.length) : runStack (decodeWord z85Guarded) h (c :: s) = .ok (.nil :: s) :=
  decode_invalid_nil _ c t hc (z85Guarded_invalid _ hbad) s h hh

/-! ### a decode word given a string never fails and never panics: nil or a bit-string of whole bytes,
    nothing else on the stack touched -/

theorem base32_decode_total (hc : c.toStr = .ok t) (hh : h ≤ s.length) :
    runStack (decodeWord base32Dec) h (c :: s) = .ok (.nil :: s) ∨
    ∃ l, base32Dec (utf8Bytes t) = .bytes l ∧
      runStack (decodeWord base32Dec) h (c :: s) = .ok (.bitstr (bytesToBits l) :: s) :=
  decode_total _ (fun _ => Dec.ofOption_ne_panic _) c t hc s h hh

theorem base32hex_decode_total (hc : c.toStr = .ok t) (hh : h ≤ s.length) :
    runStack (decodeWord base32hexDec) h (c :: s) = .ok (.nil :: s) ∨
    ∃ l, base32hexDec (utf8Bytes t) = .bytes l ∧
      runStack (decodeWord base32hexDec) h (c :: s) = .ok (.bitstr (bytesToBits l) :: s) :=
  decode_total _ (fun _ => Dec.ofOption_ne_panic _) c t hc s h hh

theorem base64_decode_total (hc : c.toStr = .ok t) (hh : h ≤ s.length) :
    runStack (decodeWord base64Dec) h (c :: s) = .ok (.nil :: s) ∨
    ∃ l, base64Dec (utf8Bytes t) = .bytes l ∧
      runStack (decodeWord base64Dec) h (c :: s) = .ok (.bitstr (bytesToBits l) :: s) :=
  decode_total _ (fun _ => Dec.ofOption_ne_panic _) c t hc s h hh

theorem zero85_decode_total (hc : c.toStr = .ok t) (hh : h ≤ s.length) :
    runStack (decodeWord z85Guarded) h (c :: s) = .ok (.nil :: s) ∨
    ∃ l, z85Guarded (utf8Bytes t) = .bytes l ∧
      runStack (decodeWord z85Guarded) h (c :: s) = .ok (.bitstr (bytesToBits l) :: s) :=
  decode_total _ z85Guarded_no_panic c t hc s h hh

/-- the crate by itself panics on a last chunk of five padding marks (C18 finding, repaired in the glue) -/
theorem z85_crate_panics : z85Decode [35, 35, 35, 35, 35] = .panic "z85 decode_tail: diff = 5" := by
  rw [z85Decode, if_neg (by decide), z85DecChunks_last _ rfl rfl, z85DecTail_hashes]

/-- with the guard of `zero85_decode_res` no text at all reaches that path -/
theorem zero85_decode_never_panics (data : List Nat) (p : String) : z85Guarded data ≠ .panic p :=
  z85Guarded_no_panic data p

/-- the glue answers nil — not a type error, not a stack underflow — for a non-string operand and for
    an empty visible stack (`if let Ok(..) = decode2(xs) … else push NIL` swallows every failure) -/
theorem decode_words_swallow_failures (dec : List Nat → Dec) :
    (∀ e, c.toStr = .err e → h ≤ s.length → runStack (decodeWord dec) h (c :: s) = .ok (.nil :: s)) ∧
    runStack (decodeWord dec) s.length s = .ok (.nil :: s) :=
  ⟨fun e he hh => by
    have hn : (c :: s).length - h ≠ 0 := by simp; omega
    rw [decodeWord, runStack_depth, if_neg hn, runStack_pop_cons _ _ _ _ hh, he]
    rfl,
   by simp [decodeWord]⟩

/-! ### encoding accepts the same inputs as `>bitstr` (plus: a whole number of bytes) -/

/-- for every encoder of the table, every operand, every error: the encoder fails with `e` exactly when
    `>bitstr` fails with `e`, or `>bitstr` succeeds with a bit length that is not a multiple of 8 and
    `e` is ToBytestrError -/
theorem encode_accepts_like_bitstr (enc : List Nat → List Nat) (hh : h ≤ s.length) (e : Xerr) :
    runStack (encodeWord enc) h (c :: s) = .err e ↔
      (runStack wordIntoBitstr h (c :: s) = .err e ∨
       ∃ bits, runStack wordIntoBitstr h (c :: s) = .ok (.bitstr bits :: s) ∧ bits.length % 8 ≠ 0 ∧
         e = .toBytestrError) := by
  rw [run_intoBitstr c s h hh, run_encodeWord enc c s h hh]
  cases hc : bitstrConcat c with
  | ok bits =>
    by_cases hm : bits.length % 8 = 0
    · simp [bytestr, hm]
    · simp [bytestr, hm]
      exact ⟨Eq.symm, Eq.symm⟩
  | err e' => simp
  | panic p => exact absurd hc (bitstrConcat_no_panic c p)

/-- neither word panics; when `>bitstr` yields whole bytes the encoder yields the text of exactly those
    bytes -/
theorem encode_accepts_value (enc : List Nat → List Nat) (hh : h ≤ s.length) :
    (∀ bits, runStack wordIntoBitstr h (c :: s) = .ok (.bitstr bits :: s) → bits.length % 8 = 0 →
      runStack (encodeWord enc) h (c :: s) = .ok (.str (asciiStr (enc (bitsToBytes bits))) :: s)) ∧
    (∀ p, runStack wordIntoBitstr h (c :: s) ≠ .panic p ∧ runStack (encodeWord enc) h (c :: s) ≠ .panic p) := by
  rw [run_intoBitstr c s h hh, run_encodeWord enc c s h hh]
  cases hc : bitstrConcat c with
  | ok bits =>
    refine ⟨fun b hb hm => ?_, fun p => ⟨by simp, ?_⟩⟩
    · obtain rfl : bits = b := by simpa using hb
      simp [bytestr, hm]
    · cases hb : bytestr bits <;> simp [hb]
  | err e => simp
  | panic p => exact absurd hc (bitstrConcat_no_panic c p)

/-- `>bitstr` on an empty visible stack, and every encoder likewise: StackUnderflow -/
theorem encode_empty_stack (enc : List Nat → List Nat) :
    runStack (encodeWord enc) s.length s = .err .stackUnderflow ∧
    runStack wordIntoBitstr s.length s = .err .stackUnderflow := by
  constructor <;> (cases s <;> simp [encodeWord, wordIntoBitstr, runStack])

-- the repository's own test vectors, through the model
example : b32Encode rfcAlphabet true [0x41, 0x31] = utf8Bytes "IEYQ====".toList := by decide
example : b32Encode crockAlphabet false [0x41, 0x31] = utf8Bytes "84RG".toList := by decide
example : b64Encode [0x41, 0x31] = utf8Bytes "QTE=".toList := by decide
example : z85Encode [0x86, 0x4F, 0xD2, 0x6F, 0xB5, 0x59, 0xF7, 0x5B] = utf8Bytes "HelloWorld".toList := by decide
-- a tail chunk: three bytes → one `#` + four letters, and back
example : z85Guarded (z85Encode [1, 2, 3]) = .bytes [1, 2, 3] := by decide
-- a mixed, nested, partly tagged vector is an operand `>bitstr` accepts with whole bytes
example : bitstrConcat (.vec (.cons (.str ['X']) (.cons (.vec (.cons (.int 0x1a) (.cons (.tagged (.bitstr [false, false, true, true]) .nil)
    (.cons (.bitstr [false, false, false, false]) .nil)))) .nil))) =
    .ok (bytesToBits [88, 0x1a, 0x30]) := by decide
-- invalid text: a back-quote is outside every alphabet
example : ∃ b ∈ utf8Bytes "``".toList, b32Val rfcInv b = none := ⟨96, by decide, by decide⟩
example : ∃ b ∈ utf8Bytes "JTK``".toList, z85Val b = none := ⟨96, by decide, by decide⟩
-- an operand that `>bitstr` rejects, and one with a bit length that is not a multiple of 8
example : bitstrConcat (.vec (.cons (.int 256) .nil)) = .err .integerOverflow := by decide
example : runStack (encodeWord b64Encode) 0 [.bitstr [true, false, true]] = .err .toBytestrError := by decide

end Xeh.C18
