/-
`from_hex_str` and `BitvecBuilder::from_bin_str` (bitstr.rs 48–121) against the list-level parsers
`Bits.parseHex` / `Bits.parseBin`: same bits, same length, same error position.
-/
import XehModel.Model.Bitstr
import XehModel.Proofs.BitsPack

namespace Xeh.Bitstr
open Xeh Xeh.Bits

theorem hexVal_lt (c : Char) (d : Nat) (h : hexVal c = some d) : d < 16 := by
  unfold hexVal at h
  simp only [Char.le_def, UInt32.le_iff_toNat_le, Char.toNat] at h
  have e0 : '0'.val.toNat = 48 := rfl
  have e9 : '9'.val.toNat = 57 := rfl
  have ea : 'a'.val.toNat = 97 := rfl
  have ef : 'f'.val.toNat = 102 := rfl
  have eA : 'A'.val.toNat = 65 := rfl
  have eF : 'F'.val.toNat = 70 := rfl
  rw [e0, e9, ea, ef, eA, eF] at h
  split at h
  · cases h; omega
  · split at h
    · cases h; omega
    · split at h
      · cases h; omega
      · cases h

theorem hex_step (acc : List Bool) (h4 : acc.length % 4 = 0) (val : Nat) (hv : val < 16) :
    (if (pack acc).length == acc.length / 8 then pack acc ++ [(val <<< 4) % 256]
     else (pack acc).set (acc.length / 8) (((pack acc).getD (acc.length / 8) 0) ||| val)) =
      pack (acc ++ bitsOfNat 4 val) := by
  have hb : beVal (bitsOfNat 4 val) = val := by rw [beVal_bitsOfNat]; exact Nat.mod_eq_of_lt hv
  by_cases h8 : acc.length % 8 = 0
  · rw [if_pos (by rw [length_pack, beq_iff_eq]; omega), pack_append _ _ h8,
      pack_group (bitsOfNat 4 val) (by simp [bitsOfNat]) (by simp), hb, bitsOfNat_length,
      Nat.mod_eq_of_lt (by rw [Nat.shiftLeft_eq]; omega)]
  · -- the low nibble of the last byte
    obtain ⟨d, hd, e⟩ := pack_fill acc (bitsOfNat 4 val) (by omega) (by rw [bitsOfNat_length]; omega)
    rw [if_neg (by rw [length_pack, beq_iff_eq]; omega), List.getD_eq_getElem?_getD, hd, e, hb, bitsOfNat_length,
      show 8 - acc.length % 8 - 4 = 0 by omega]
    rfl

theorem bin_step (acc : List Bool) (x : Bool) :
    builderAppendBit (pack acc) acc.length x.toNat = (pack (acc ++ [x]), acc.length + 1) := by
  unfold builderAppendBit
  have hb : beVal [x] = x.toNat := by simp [beVal]
  by_cases h8 : acc.length % 8 = 0
  · rw [if_pos (by rw [length_pack, beq_iff_eq]; omega), pack_append _ _ h8, pack_group [x] (by simp) (by simp), hb,
      Nat.mod_eq_of_lt (toNat_shiftLeft_lt x (n := 8) (by decide))]
    rfl
  · obtain ⟨d, hd, e⟩ := pack_fill acc [x] (by omega) (by simp; omega)
    rw [if_neg (by rw [length_pack, beq_iff_eq]; omega), List.getD_eq_getElem?_getD, hd, e, hb,
      Nat.mod_eq_of_lt (toNat_shiftLeft_lt x (n := 8) (by omega)), List.length_singleton, Nat.sub_sub,
      show 8 - (acc.length % 8 + 1) = 7 - acc.length % 8 by omega]
    rfl

theorem fromHexBytes_spec : ∀ (cs : List Char) (pos : Nat) (acc : List Bool), acc.length % 4 = 0 →
    match fromHexBytes cs pos acc.length (pack acc), parseHex.go cs pos with
    | .ok (buf', n'), .ok l => buf' = pack (acc ++ l) ∧ n' = (acc ++ l).length
    | .error p, .error q => p = q
    | _, _ => False := by
  intro cs
  induction cs with
  | nil =>
    intro pos acc _
    simp only [fromHexBytes, parseHex.go, List.append_nil]
    exact ⟨trivial, trivial⟩
  | cons c r ih =>
    intro pos acc h4
    simp only [fromHexBytes, parseHex.go]
    by_cases hws : isAsciiWs c = true
    · rw [if_pos hws, if_pos hws]
      exact ih (pos + 1) acc h4
    · rw [if_neg hws, if_neg hws]
      cases hv : hexVal c with
      | none => simp
      | some val =>
        simp only
        have hlen : acc.length + 4 = (acc ++ bitsOfNat 4 val).length := by simp
        have := ih (pos + 1) (acc ++ bitsOfNat 4 val) (by rw [← hlen]; omega)
        rw [← hlen, ← hex_step acc h4 val (hexVal_lt c val hv)] at this
        revert this
        cases fromHexBytes r (pos + 1) (acc.length + 4) _ with
        | error e =>
          cases parseHex.go r (pos + 1) with
          | error q => simp
          | ok l => simp
        | ok res =>
          obtain ⟨b', n'⟩ := res
          cases parseHex.go r (pos + 1) with
          | error q => simp
          | ok l => simp [List.append_assoc]

theorem fromBinBytes_spec : ∀ (cs : List Char) (pos : Nat) (acc : List Bool),
    match fromBinBytes cs pos (pack acc) acc.length, parseBin.go cs pos with
    | .ok (buf', n'), .ok l => buf' = pack (acc ++ l) ∧ n' = (acc ++ l).length
    | .error p, .error q => p = q
    | _, _ => False := by
  intro cs
  induction cs with
  | nil =>
    intro pos acc
    simp only [fromBinBytes, parseBin.go, List.append_nil]
    exact ⟨trivial, trivial⟩
  | cons c r ih =>
    intro pos acc
    simp only [fromBinBytes, parseBin.go]
    by_cases hws : isAsciiWs c = true
    · rw [if_pos hws, if_pos hws]
      exact ih (pos + 1) acc
    · rw [if_neg hws, if_neg hws]
      have key : ∀ x : Bool, (c == '1') = x →
          match fromBinBytes r (pos + 1) (builderAppendBit (pack acc) acc.length x.toNat).1
              (builderAppendBit (pack acc) acc.length x.toNat).2,
            (match parseBin.go r (pos + 1) with
              | .ok bits => Except.ok ((c == '1') :: bits)
              | .error e => .error e) with
          | .ok (buf', n'), .ok l => buf' = pack (acc ++ l) ∧ n' = (acc ++ l).length
          | .error p, .error q => p = q
          | _, _ => False := by
        intro x hx
        rw [bin_step acc x]
        simp only
        have hlen : acc.length + 1 = (acc ++ [x]).length := by simp
        have := ih (pos + 1) (acc ++ [x])
        rw [← hlen] at this
        revert this
        cases fromBinBytes r (pos + 1) (pack (acc ++ [x])) (acc.length + 1) with
        | error e =>
          cases parseBin.go r (pos + 1) with
          | error q => simp
          | ok l => simp
        | ok res =>
          obtain ⟨b', n'⟩ := res
          cases parseBin.go r (pos + 1) with
          | error q => simp
          | ok l => simp [List.append_assoc, hx]
      by_cases h0 : (c == '0') = true
      · have hc : c = '0' := by simpa using h0
        have h1 : (c == '1') = false := by subst hc; decide
        rw [if_pos h0]
        have : (c == '0' || c == '1') = true := by simp [h0]
        rw [if_pos this]
        exact key false h1
      · rw [if_neg h0]
        by_cases h1 : (c == '1') = true
        · rw [if_pos h1]
          have : (c == '0' || c == '1') = true := by simp [h1]
          rw [if_pos this]
          exact key true h1
        · rw [if_neg h1]
          have : ¬((c == '0' || c == '1') = true) := by simp [h0, h1]
          rw [if_neg this]

end Xeh.Bitstr
