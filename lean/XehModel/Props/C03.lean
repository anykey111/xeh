/-
C03 — a cloned interpreter is an independent snapshot; re-running it is deterministic.  (PARTIAL)

What a Lean model can carry and what it cannot (DESIGN §9 C03):

* In the model an interpreter state is an immutable value, so "the snapshot cannot be changed by
  the original" holds by construction; the theorems below therefore concern the one place where
  the *implementation* lets two clones reach the same mutable storage — bit-string buffers
  (`Rc<Cow<[u8]>>`), modelled with explicit reference counts in Model/Bitstr.lean:
  `shared_buffer_reads_isolated`, `shared_buffer_detach_isolated` (re-exported from the C04 layer):
  no range operation, clone, drop or detach on one handle changes the bits any other handle
  denotes; every in-place write (`append`, `insert`, `invert`) happens after `detach`, and
  `shared_buffer_writes_isolated`: whatever other handle exists while one of these three consumes its
  receiver — in particular the same value held by a cloned interpreter — denotes the same bits afterwards;
  `snapshot_values_survive_any_history`: the same over ANY sequence of operations one copy performs on its own values
  (the pool machine of Model/BitstrPool.lean, whose invariant counts the live handles of every buffer).
* Determinism of re-running a snapshot: `rerun_deterministic` — two machines that agree on
  everything a program can observe (they may differ in the reverse log, the instruction meter,
  captured stdout) execute the same steps and agree after every one (from C02's `replay`).
* That `Vec::clone` is deep, that rpds updates are persistent, that no `RefCell`/raw pointer is
  shared are Rust-level facts no executable model can exhibit; they are reached only by the
  exploration in harness/src/props/c03.rs. Known finding: `Cell::AnyRc` host objects (the d2
  canvas) ARE shared by `clone` (`[anyrc-shared]` in known_findings.json).
-/
import XehModel.Props.C02
import XehModel.Props.C04

namespace Xeh.C03
open Xeh Xeh.Mach

/-- reading, slicing, cloning or dropping one handle never changes what another handle denotes -/
theorem shared_buffer_reads_isolated (h : Bitstr.Heap) (s t : Bitstr.Handle) (a b : Nat) :
    Bitstr.bits (Bitstr.seek h s a).1 t = Bitstr.bits h t ∧ Bitstr.bits (Bitstr.peek h s a).1 t = Bitstr.bits h t ∧
    Bitstr.bits (Bitstr.substr h s a b).1 t = Bitstr.bits h t ∧ Bitstr.bits (Bitstr.read h s a).1 t = Bitstr.bits h t ∧
    Bitstr.bits (Bitstr.splitAt h s a).1 t = Bitstr.bits h t ∧ Bitstr.bits (Bitstr.clone h s).1 t = Bitstr.bits h t ∧
    Bitstr.bits (Bitstr.drop h s) t = Bitstr.bits h t :=
  C04.range_ops_isolation h s t a b

/-- the in-place writes themselves: `append`, `insert` and `invert` consume their receiver `s`; any other handle `u`
    (a clone of `s` held by a snapshot, a slice of the same buffer, an unrelated value) denotes the same bits
    afterwards.  `u` sharing `s`'s buffer is expressed the way the implementation knows it: the count is ≥ 2. -/
theorem shared_buffer_writes_isolated (h : Bitstr.Heap) (s t u : Bitstr.Handle) (k : Nat)
    (ws : Bitstr.WF h s) (wt : Bitstr.WF h t) (wu : Bitstr.WF h u)
    (hu : u.buf = s.buf → 2 ≤ (h.buf s.buf).rc) :
    (∃ h' r, Bitstr.invert h s = .ok (h', r) ∧ Bitstr.bits h' u = Bitstr.bits h u) ∧
    ((t.buf = s.buf → 2 ≤ (h.buf s.buf).rc) →
      ∃ h' r, Bitstr.append h s t = .ok (h', r) ∧ Bitstr.bits h' u = Bitstr.bits h u) ∧
    (s.start + k ≤ s.end_ → s.end_ ≤ Bitstr.usizeMax →
      ∃ h' r, Bitstr.insert h s k t = .ok (h', some r) ∧ Bitstr.bits h' u = Bitstr.bits h u) := by
  refine ⟨?_, ?_, ?_⟩
  · obtain ⟨h', r, h1, _, _, f⟩ := C04.invert_refines h s ws
    exact ⟨h', r, h1, (f.isolation u wu hu).2⟩
  · intro ht
    obtain ⟨h', r, h1, _, _, f⟩ := C04.append_refines h s t ws wt ht
    exact ⟨h', r, h1, (f.isolation u wu hu).2⟩
  · intro hk hm
    obtain ⟨h', r, h1, _, _, f⟩ := C04.insert_refines h s t k ws wt hk hm
    exact ⟨h', r, h1, (f.isolation u wu hu).2⟩

/-- `detach` (the gate before every in-place write) leaves every other handle's bits unchanged -/
theorem shared_buffer_detach_isolated (h : Bitstr.Heap) (s : Bitstr.Handle) (wf : Bitstr.WF h s)
    (t : Bitstr.Handle) (ht : t.buf < h.next) :
    ∃ h' s', Bitstr.detach h s = .ok (h', s') ∧ Bitstr.bits h' t = Bitstr.bits h t :=
  C04.detach_isolation h s wf t ht

/-- **Over any history.** Two copies of an interpreter hold handles into the same buffers (a clone copies handles, not
    bytes). Let one of them do whatever it likes with ITS values — any sequence of the pool operations of
    Model/BitstrPool.lean whose consumed receivers are its own (`C04.writes op ≠ some j`) — creating, cloning, slicing,
    detaching, inverting, appending to, inserting into and dropping them, also values that share a buffer with the
    other copy's: a value `j` of the other copy denotes at the end exactly what it denoted at the start (the same start,
    the same bits), and is still well formed. From every state a history reaches (`PoolInv`). -/
theorem snapshot_values_survive_any_history (ops : List Bitstr.PoolOp) :
    ∀ (p : Bitstr.Pool) (a : List (Option Bitstr.AVal)), Bitstr.PoolInv p a →
    ∀ (p' : Bitstr.Pool), p.run ops = some p' →
    ∀ (j : Nat) (s : Bitstr.Handle), p.slots[j]? = some (some s) → (∀ op ∈ ops, C04.writes op ≠ some j) →
      ∃ s', p'.slots[j]? = some (some s') ∧ s'.start = s.start ∧ Bitstr.bits p'.heap s' = Bitstr.bits p.heap s ∧
        Bitstr.WF p'.heap s' := by
  induction ops with
  | nil =>
    intro p a inv p' h j s hj _
    cases h
    exact ⟨s, hj, rfl, rfl, (inv.live j s hj).1⟩
  | cons op ops ih =>
    intro p a inv p' h j s hj hw
    obtain ⟨p1, hs, h⟩ := Option.bind_eq_some_iff.mp h
    obtain ⟨s1, h1, e1, b1⟩ := C04.other_values_are_untouched p a inv op p1 hs j s hj (hw op (by simp))
    obtain ⟨s', h2, e2, b2, w2⟩ := ih p1 _ (C04.pool_step_refines p a inv op p1 hs) p' h j s1 h1
      (fun o ho => hw o (by simp [ho]))
    exact ⟨s', h2, e2.trans e1, b2.trans b1, w2⟩

/-- a snapshot and its origin, started on the same program, go through the same steps and agree
    after each (they may differ in log, meter and captured stdout when the runs start) -/
theorem rerun_deterministic (np : String → Option Prog) (n : Nat) (a b a' : Mach) (w : WF a)
    (h : normAll a = normAll b) (hl : a.insnLimit = none) (hn : C02.stepN np n a = some a') :
    ∃ b', C02.stepN np n b = some b' ∧ normAll a' = normAll b' :=
  C02.replay np n a b a' w h hl hn

end Xeh.C03
