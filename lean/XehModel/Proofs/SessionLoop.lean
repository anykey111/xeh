/-
The token loop of the session model, round by round: classify the token at the head (Proofs/CompileKind.lean; this reads
the visible flows and the dictionary, nothing else), act on it, run the meta block.  What every act and every meta run keep, the loop keeps
(`tokens_all`); sessions that classify alike and whose acts and meta runs are related give related answers
(`tokens_rel`); a relation the VM, the compiler and the session's own writes respect is respected by all (`Congruence`).
-/
import XehModel.Model.Session
import XehModel.Proofs.CompileKind

namespace Xeh.Session
open Xeh Xeh.Mach Xeh.Compile Xeh.Session.Sess

def SRes.All (P E N : Sess → Prop) : SRes → Prop
  | .ok s => P s
  | .err _ s => E s
  | .panic _ s => N s
  | _ => True

def SRes.Rel (R E : Sess → Sess → Prop) : SRes → SRes → Prop
  | .ok s, .ok t => R s t
  | .err e s, .err e' t => e = e' ∧ E s t
  | .panic p s, .panic p' t => p = p' ∧ E s t
  | .unsupported u, .unsupported u' => u = u'
  | .timeout, .timeout => True
  | _, _ => False

namespace SRes

variable {P E N P' E' N' : Sess → Prop} {R F R' F' : Sess → Sess → Prop}

theorem All.bind {r : SRes} {k : Sess → SRes} (h : r.All P' E N) (hk : ∀ s, P' s → (k s).All P E N) :
    All P E N (match (generalizing := false) r with
      | .ok s => k s
      | r => r) := by
  cases r with
  | ok s => exact hk s h
  | err e s => exact h
  | panic p s => exact h
  | unsupported u => trivial
  | timeout => trivial

theorem All.andRun {fuel : Nat} {r : SRes} (h : r.All P E N) (hrun : ∀ s, P s → (s.metaRun fuel).All P E N) :
    (andRun fuel r).All P E N := h.bind hrun

theorem Rel.mono {r r' : SRes} (h : Rel R F r r') (hR : ∀ s t, R s t → R' s t) (hF : ∀ s t, F s t → F' s t) :
    Rel R' F' r r' := by
  cases r <;> cases r' <;> first | exact h.elim | skip
  · exact hR _ _ h
  · exact ⟨h.1, hF _ _ h.2⟩
  · exact ⟨h.1, hF _ _ h.2⟩
  · exact h
  · trivial

theorem Rel.bind {r r' : SRes} {k k' : Sess → SRes} (h : Rel R' F r r') (hk : ∀ s t, R' s t → Rel R F (k s) (k' t)) :
    Rel R F (match (generalizing := false) r with
      | .ok s => k s
      | r => r)
     (match (generalizing := false) r' with
      | .ok s => k' s
      | r => r) := by
  cases r <;> cases r' <;> first | exact h.elim | skip
  · exact hk _ _ h
  · exact h
  · exact h
  · exact h
  · trivial

theorem Rel.andRun {fuel : Nat} {r r' : SRes} (h : Rel R F r r')
    (hrun : ∀ s t, R s t → Rel R F (s.metaRun fuel) (t.metaRun fuel)) : Rel R F (andRun fuel r) (andRun fuel r') :=
  h.bind hrun

theorem Rel.ite {p p' : Prop} [Decidable p] [Decidable p'] (hc : p ↔ p') {a a' b b' : SRes}
    (h1 : p → Rel R F a a') (h2 : ¬p → Rel R F b b') : Rel R F (if p then a else b) (if p' then a' else b') := by
  by_cases h : p
  · rw [if_pos h, if_pos (hc.mp h)]; exact h1 h
  · rw [if_neg h, if_neg (fun x => h (hc.mpr x))]; exact h2 h

/-- related answers, case by case: as if `Rel` were declared with one constructor per kind of answer -/
@[elab_as_elim] theorem Rel.cases {motive : SRes → SRes → Prop} {r r' : SRes} (h : Rel R F r r')
    (ok : ∀ s t, R s t → motive (.ok s) (.ok t)) (err : ∀ e s t, F s t → motive (.err e s) (.err e t))
    (panic : ∀ p s t, F s t → motive (.panic p s) (.panic p t)) (unsupported : ∀ u, motive (.unsupported u) (.unsupported u))
    (timeout : motive .timeout .timeout) : motive r r' := by
  cases r <;> cases r' <;> first | exact h.elim | skip
  · exact ok _ _ h
  · obtain ⟨rfl, h⟩ := h; exact err _ _ _ h
  · obtain ⟨rfl, h⟩ := h; exact panic _ _ _ h
  · cases h; exact unsupported _
  · exact timeout

theorem Rel.of_ok {s : Sess} {r' : SRes} (h : Rel R F (.ok s) r') : ∃ t, r' = .ok t ∧ R s t := by
  cases r' <;> first | exact h.elim | exact ⟨_, rfl, h⟩

theorem Rel.of_err {e : Xerr} {s : Sess} {r' : SRes} (h : Rel R F (.err e s) r') : ∃ t, r' = .err e t ∧ F s t := by
  cases r' <;> first | exact h.elim | (obtain ⟨rfl, h⟩ := h; exact ⟨_, rfl, h⟩)

theorem Rel.of_panic {p : String} {s : Sess} {r' : SRes} (h : Rel R F (.panic p s) r') : ∃ t, r' = .panic p t ∧ F s t := by
  cases r' <;> first | exact h.elim | (obtain ⟨rfl, h⟩ := h; exact ⟨_, rfl, h⟩)

theorem Rel.of_unsupported {u : String} {r' : SRes} (h : Rel R F (.unsupported u) r') : r' = .unsupported u := by
  cases r' <;> first | exact h.elim | (cases h; rfl)

theorem Rel.of_timeout {r' : SRes} (h : Rel R F .timeout r') : r' = .timeout := by
  cases r' <;> first | exact h.elim | rfl

/-- comparing two sides through a third: answers each related to `rz` are of the same kind, with the same error, and
    their sessions have a common relative -/
theorem Rel.join {r r' rz : SRes} (h : Rel R R r rz) (h' : Rel R' R' r' rz) :
    Rel (fun x y => ∃ z, R x z ∧ R' y z) (fun x y => ∃ z, R x z ∧ R' y z) r r' := by
  cases r <;> cases rz <;> first | exact h.elim | skip
  all_goals cases r' <;> first | exact h'.elim | skip
  · exact ⟨_, h, h'⟩
  · exact ⟨h.1.trans h'.1.symm, _, h.2, h'.2⟩
  · exact ⟨h.1.trans h'.1.symm, _, h.2, h'.2⟩
  · exact h.trans h'.symm
  · trivial

end SRes

def Sess.BRes.All (P N : Sess → Prop) : BRes → Prop
  | .done s => P s
  | .rejected _ s => P s
  | .failed _ s => P s
  | .panic _ s => N s
  | _ => True

def Sess.BRes.Rel (G : Sess → Sess → Prop) : BRes → BRes → Prop
  | .done s, .done t => G s t
  | .rejected e s, .rejected e' t => e = e' ∧ G s t
  | .failed e s, .failed e' t => e = e' ∧ G s t
  | .panic p s, .panic p' t => p = p' ∧ G s t
  | .unsupported u, .unsupported u' => u = u'
  | .timeout, .timeout => True
  | _, _ => False

@[elab_as_elim] theorem Sess.BRes.Rel.cases {G : Sess → Sess → Prop} {motive : BRes → BRes → Prop} {r r' : BRes}
    (h : BRes.Rel G r r') (done : ∀ s t, G s t → motive (.done s) (.done t))
    (rejected : ∀ e s t, G s t → motive (.rejected e s) (.rejected e t))
    (failed : ∀ e s t, G s t → motive (.failed e s) (.failed e t)) (panic : ∀ p s t, G s t → motive (.panic p s) (.panic p t))
    (unsupported : ∀ u, motive (.unsupported u) (.unsupported u)) (timeout : motive .timeout .timeout) : motive r r' := by
  cases r <;> cases r' <;> first | exact h.elim | skip
  · exact done _ _ h
  · obtain ⟨rfl, h⟩ := h; exact rejected _ _ _ h
  · obtain ⟨rfl, h⟩ := h; exact failed _ _ _ h
  · obtain ⟨rfl, h⟩ := h; exact panic _ _ _ h
  · cases h; exact unsupported _
  · exact timeout

theorem Sess.BRes.Rel.join {G G' : Sess → Sess → Prop} {r r' rz : BRes} (h : BRes.Rel G r rz) (h' : BRes.Rel G' r' rz) :
    BRes.Rel (fun x y => ∃ z, G x z ∧ G' y z) r r' := by
  cases r <;> cases rz <;> first | exact h.elim | skip
  all_goals cases r' <;> first | exact h'.elim | skip
  · exact ⟨_, h, h'⟩
  · exact ⟨h.1.trans h'.1.symm, _, h.2, h'.2⟩
  · exact ⟨h.1.trans h'.1.symm, _, h.2, h'.2⟩
  · exact ⟨h.1.trans h'.1.symm, _, h.2, h'.2⟩
  · exact h.trans h'.symm
  · trivial

/-- one round of the token loop: the answer, the tokens that remain, the index of the next one -/
def step1 (fuel : Nat) (t : Tok) (rest : List Tok) (idx : Nat) (s : Sess) : SRes × List Tok × Nat :=
  match t with
  | .lit c => (andRun fuel (.ok (({ s with lastTok := idx } : Sess).emit (Mach.loadValueOp c))), rest, idx + 1)
  | .word w =>
    let s := { s with lastTok := idx }
    match (CState.topFun s.visible).bind fun ff => CState.rposition w ff.locals with
    | some i => (andRun fuel (.ok (s.emit (.loadLocal i))), rest, idx + 1)
    | none =>
      match s.m.dict.lookup w with
      | some (.native true n) =>
        if n == "#(" then (andRun fuel (.ok (s.contextOpen .metaEval)), rest, idx + 1)
        else if n == "#)" then (andRun fuel (s.nestedEnd fuel), rest, idx + 1)
        else if n == "const" || takesName n then
          match rest with
          | .word name :: rest' =>
            let r := if n == "const" then ({ s with lastTok := idx + 1 } : Sess).constDef name
                     else if n == "late" then s.ofC (late s.toC name (idx + 1))
                     else ({ s with lastTok := idx + 1 } : Sess).ofC (withName ({ s with lastTok := idx + 1 } : Sess).toC n name)
            (andRun fuel r, rest', idx + 2)
          | _ => (.err .expectingName s, rest, idx)
        else (andRun fuel (s.ofC (immediate s.toC n)), rest, idx + 1)
      | _ => (andRun fuel (s.ofC (buildWord s.toC w)), rest, idx + 1)

/-- `s`: the session with its last-token marker already set -/
def act (fuel : Nat) (s : Sess) : Kind → SRes
  | .emit op => .ok (s.emit op)
  | .openMeta => .ok (s.contextOpen .metaEval)
  | .closeMeta => s.nestedEnd fuel
  | .const name => s.constDef name
  | .noName => .err .expectingName s
  | k => s.ofC (cact s.toC k)

def round (fuel : Nat) (rest : List Tok) (idx : Nat) (s : Sess) (k : Kind) : SRes × List Tok × Nat :=
  (andRun fuel (act fuel { s with lastTok := k.tok idx } k), rest.drop (k.width - 1), idx + k.width)

def thenTokens (fuel depth : Nat) (x : SRes × List Tok × Nat) : SRes :=
  match x.1 with
  | .ok s => tokens fuel depth x.2.1 x.2.2 s
  | r => r

/-- `step1` and `tokens` go through the same cases as `classify`: one walk for both -/
theorem round_eqs (fuel depth : Nat) (t : Tok) (rest : List Tok) (idx : Nat) (s : Sess) :
    step1 fuel t rest idx s = round fuel rest idx s (classify s.visible s.m.dict t rest) ∧
    tokens fuel depth (t :: rest) idx s = thenTokens fuel depth (round fuel rest idx s (classify s.visible s.m.dict t rest)) := by
  cases t with
  | lit c => exact ⟨rfl, rfl⟩
  | word x =>
    have hv : ({ s with lastTok := idx } : Sess).visible = s.visible := rfl
    simp only [step1, tokens, classify, hv]
    generalize ((CState.topFun s.visible).bind fun ff => CState.rposition x ff.locals) = d
    generalize List.lookup x s.m.dict = e
    cases d with
    | some i => exact ⟨rfl, rfl⟩
    | none =>
      cases e with
      | none => exact ⟨rfl, rfl⟩
      | some en =>
        cases en with
        | native im n =>
          cases im with
          | false => exact ⟨rfl, rfl⟩
          | true =>
            dsimp only
            by_cases h1 : (n == "#(") = true
            · simp only [if_pos h1]; exact ⟨rfl, rfl⟩
            · simp only [if_neg h1]
              by_cases h2 : (n == "#)") = true
              · simp only [if_pos h2]; exact ⟨rfl, rfl⟩
              · simp only [if_neg h2]
                by_cases h3 : (n == "const" || takesName n) = true
                · simp only [if_pos h3]
                  cases rest with
                  | nil => exact ⟨rfl, rfl⟩
                  | cons r1 rest1 =>
                    cases r1 with
                    | lit c => exact ⟨rfl, rfl⟩
                    | word name =>
                      dsimp only
                      by_cases h4 : (n == "const") = true
                      · simp only [if_pos h4]; exact ⟨rfl, rfl⟩
                      · simp only [if_neg h4]
                        by_cases h5 : (n == "late") = true
                        · simp only [if_pos h5]; exact ⟨rfl, rfl⟩
                        · simp only [if_neg h5]; exact ⟨rfl, rfl⟩
                · simp only [if_neg h3]; exact ⟨rfl, rfl⟩
        | const c => exact ⟨rfl, rfl⟩
        | var a => exact ⟨rfl, rfl⟩
        | interp im a => exact ⟨rfl, rfl⟩

theorem step1_eq (fuel : Nat) (t : Tok) (rest : List Tok) (idx : Nat) (s : Sess) :
    step1 fuel t rest idx s = round fuel rest idx s (classify s.visible s.m.dict t rest) :=
  (round_eqs fuel 0 t rest idx s).1

theorem tokens_cons (fuel depth : Nat) (t : Tok) (rest : List Tok) (idx : Nat) (s : Sess) :
    tokens fuel depth (t :: rest) idx s = thenTokens fuel depth (round fuel rest idx s (classify s.visible s.m.dict t rest)) :=
  (round_eqs fuel depth t rest idx s).2

theorem tokens_step (fuel depth : Nat) (t : Tok) (rest : List Tok) (idx : Nat) (s : Sess) :
    tokens fuel depth (t :: rest) idx s = thenTokens fuel depth (step1 fuel t rest idx s) := by
  rw [tokens_cons, step1_eq]

theorem tokens_induction {motive : List Tok → Prop} (nil : motive [])
    (cons : ∀ t rest, (∀ n, motive (rest.drop n)) → motive (t :: rest)) : ∀ toks, motive toks := by
  intro toks
  induction hn : toks.length using Nat.strongRecOn generalizing toks with
  | _ n ih =>
    cases toks with
    | nil => exact nil
    | cons t rest =>
      subst hn
      exact cons t rest (fun n => ih _ (by simp only [List.length_drop, List.length_cons]; omega) _ rfl)

section
variable {P Q E N : Sess → Prop}

theorem pending_ne_nil {s : Sess} (h : s.hasPendingFlow = true) : s.flows ≠ [] := by
  intro e
  simp [Sess.hasPendingFlow, e] at h

theorem runS_all (s : Sess) (fuel : Nat)
    (hok : ∀ m', Mach.run nativeProg fuel s.m = some (.ok (), m') → P { s with m := m' })
    (herr : ∀ e m', Mach.run nativeProg fuel s.m = some (.err e, m') → E { s with m := m' })
    (hpanic : ∀ p m', Mach.run nativeProg fuel s.m = some (.panic p, m') → p.startsWith "model:" = false → N { s with m := m' }) :
    (s.runS fuel).All P E N := by
  unfold Sess.runS
  split
  · trivial
  · rename_i m' h; exact hok m' h
  · rename_i e m' h
    split
    · trivial
    · exact herr e m' h
  · rename_i p m' h
    split
    · trivial
    · rename_i hp; exact hpanic p m' h (by simpa using hp)

theorem andRun_ok {fuel : Nat} {r : SRes} {s' : Sess} (h : andRun fuel r = .ok s') : ∃ t, r = .ok t ∧ t.metaRun fuel = .ok s' := by
  cases r <;> first | exact ⟨_, rfl, h⟩ | cases h

theorem runS_ok {s s' : Sess} {fuel : Nat} (h : s.runS fuel = .ok s') :
    ∃ m', Mach.run nativeProg fuel s.m = some (.ok (), m') ∧ s' = { s with m := m' } := by
  have := runS_all (P := fun x => ∃ m', Mach.run nativeProg fuel s.m = some (.ok (), m') ∧ x = { s with m := m' })
    (E := fun _ => True) (N := fun _ => True) s fuel (fun m' hr => ⟨m', hr, rfl⟩) (fun _ _ _ => trivial) (fun _ _ _ _ => trivial)
  rw [h] at this
  exact this

theorem metaRun_noop (s : Sess) (fuel : Nat) (h : s.m.ctx.mode ≠ .metaEval) : s.metaRun fuel = .ok s := by
  unfold Sess.metaRun
  have : (s.m.ctx.mode == Mode.metaEval) = false := by cases hm : s.m.ctx.mode <;> simp_all
  simp [this]

theorem runS_idle (s : Sess) (fuel : Nat) (h : s.m.isRunning = false) : s.runS fuel = .ok s := by
  have hr : Mach.run nativeProg fuel s.m = some (.ok (), s.m) := by
    cases fuel <;> simp [Mach.run, h]
  simp only [Sess.runS, hr]

/-- the meta run just after a `#(`: nothing has been compiled yet -/
theorem metaRun_fresh (s : Sess) (fuel : Nat) :
    (s.contextOpen .metaEval).metaRun fuel = .ok (s.contextOpen .metaEval) := by
  have a2 : (s.contextOpen .metaEval).hasPendingFlow = false := by simp [Sess.hasPendingFlow, Sess.contextOpen]
  simp only [Sess.metaRun, show ((s.contextOpen .metaEval).m.ctx.mode == Mode.metaEval) = true from rfl, a2, Bool.not_false,
    Bool.and_self, if_true]
  exact runS_idle _ fuel (by simp [Mach.isRunning, Sess.contextOpen])

theorem metaRun_all (s : Sess) (fuel : Nat) (h : P s) (hrun : s.m.ctx.mode = .metaEval → (s.runS fuel).All P E N) :
    (s.metaRun fuel).All P E N := by
  unfold Sess.metaRun
  split
  · rename_i hc
    simp only [Bool.and_eq_true, beq_iff_eq] at hc
    exact hrun hc.1
  · exact h

/-- the cells above the floor of the current context (`emitResults` stops at `max dsOpen dsLen`) -/
def Sess.excess (s : Sess) : Nat := s.m.ds.length - max s.m.ctx.dsOpen s.m.ctx.dsLen

/-- the top `k` cells leave the stack and come back as literals -/
def Sess.drain (s : Sess) (k : Nat) : Sess :=
  { s with m := { s.m with ds := s.m.ds.drop k, code := s.m.code ++ (s.m.ds.take k).map Mach.loadValueOp },
           dmap := s.dmap ++ List.replicate k s.lastTok }

theorem drain_zero (s : Sess) : s.drain 0 = s := by
  simp [Sess.drain]

/-- `emitResults` is no loop: given rounds enough it takes the whole excess, and never fails -/
theorem emitResults_eq : ∀ (f : Nat) (s : Sess), s.excess ≤ f → emitResults f s = .ok (s.drain s.excess)
  | 0, s, h => by rw [Nat.le_zero.mp h, drain_zero]; rfl
  | f + 1, s, h => by
    simp only [emitResults]
    split
    · rename_i hgt
      split
      · rename_i v rest hd
        have hk : s.excess = rest.length - max s.m.ctx.dsOpen s.m.ctx.dsLen + 1 := by
          simp only [Sess.excess, hd, List.length_cons] at hgt ⊢; omega
        rw [emitResults_eq f _ (by simp only [Sess.excess, Sess.emit]; omega), hk]
        simp [Sess.drain, Sess.excess, Sess.emit, hd, List.replicate_succ]
      · rename_i hd
        rw [hd] at hgt; simp at hgt
    · rename_i hle
      rw [show s.excess = 0 by simp only [Sess.excess]; omega, drain_zero]

/-- the session `context_close` leaves when it closes a meta block in session `s` (the block has run; `prev`: the context
    saved when it was opened): code and debug map cut back to the block's mark, its non-constant definitions purged, the
    excess re-emitted as literals, `prev` current again.  An enclosing meta block that has nothing open keeps the results
    on its stack (`k = 0`). -/
def Sess.closed (s : Sess) (prev : Ctx) : Sess :=
  let k := if prev.mode != .metaEval || s.flows.length > prev.fsLen then s.excess else 0
  { s with m := { s.m with ctx := prev, ds := s.m.ds.drop k, dict := purge s.m.dict s.m.ctx.diLen,
                           code := s.m.code.take s.m.ctx.csLen ++ (s.m.ds.take k).map Mach.loadValueOp },
           dmap := s.dmap.take s.m.ctx.csLen ++ List.replicate k s.lastTok }

/-- the number of cells `closed` takes: at most the excess, and all of it towards a context that is no meta block -/
theorem closed_ds (s : Sess) (prev : Ctx) : ∃ k, k ≤ s.excess ∧ (prev.mode ≠ .metaEval → k = s.excess) ∧
    (s.closed prev).m.ds = s.m.ds.drop k ∧
    (s.closed prev).m.code = s.m.code.take s.m.ctx.csLen ++ (s.m.ds.take k).map Mach.loadValueOp ∧
    (s.closed prev).dmap = s.dmap.take s.m.ctx.csLen ++ List.replicate k s.lastTok := by
  refine ⟨_, ?_, fun hp => ?_, rfl, rfl, rfl⟩
  · split
    · exact Nat.le_refl _
    · exact Nat.zero_le _
  · rw [if_pos (by simp [bne_iff_ne.mpr hp])]

theorem contextClose_nil (s : Sess) (fuel : Nat) (h : s.nested = []) : s.contextClose fuel = .err unbalancedContext s := by
  simp only [Sess.contextClose, h]

theorem contextClose_compile (s : Sess) (prev : Ctx) (rest : List Ctx) (fuel : Nat) (h : s.nested = prev :: rest)
    (hm : s.m.ctx.mode = .compile) : s.contextClose fuel = .ok { s with nested := rest, m := { s.m with ctx := prev } } := by
  simp only [Sess.contextClose, h, hm]

theorem contextClose_eval (s : Sess) (prev : Ctx) (rest : List Ctx) (fuel : Nat) (h : s.nested = prev :: rest)
    (hm : s.m.ctx.mode = .eval) :
    s.contextClose fuel = match ({ s with nested := rest } : Sess).runS fuel with
      | .ok s1 => .ok { s1 with m := { s1.m with ctx := if prev.mode = .eval then { prev with ip := s1.m.ctx.ip } else prev } }
      | r => r := by
  simp only [Sess.contextClose, h, hm]
  cases Sess.runS fuel { s with nested := rest } <;> rfl

theorem contextClose_meta (s : Sess) (prev : Ctx) (rest : List Ctx) (fuel : Nat) (h : s.nested = prev :: rest)
    (hm : s.m.ctx.mode = .metaEval) :
    s.contextClose fuel = match ({ s with nested := rest } : Sess).runS fuel with
      | .ok s1 => .ok (s1.closed prev)
      | r => r := by
  simp only [Sess.contextClose, h, hm]
  cases Sess.runS fuel { s with nested := rest } with
  | ok s1 =>
    have e := emitResults_eq (s1.m.ds.length + 1)
      { s1 with m := { s1.m with code := s1.m.code.take s1.m.ctx.csLen, dict := purge s1.m.dict s1.m.ctx.diLen },
                dmap := s1.dmap.take s1.m.ctx.csLen } (Nat.le_succ_of_le (Nat.sub_le _ _))
    unfold Sess.closed
    dsimp only at e ⊢
    by_cases hc : (prev.mode != Mode.metaEval || decide (s1.flows.length > prev.fsLen)) = true
    · rw [if_pos hc, if_pos hc, e]; rfl
    · rw [if_neg hc, if_neg hc]; simp
  | _ => rfl

/-- `Q`: of the session while it is being closed; it gives `P` once a context has been put back -/
theorem contextClose_all (s : Sess) (fuel : Nat) (herr : E s) (hpop : ∀ rest, Q { s with nested := rest })
    (hrun : ∀ s, Q s → (s.runS fuel).All Q E N) (hclosed : ∀ s prev, Q s → P (s.closed prev))
    (hctx : ∀ s c, Q s → P { s with m := { s.m with ctx := c } }) : (s.contextClose fuel).All P E N := by
  cases hn : s.nested with
  | nil => rw [contextClose_nil s fuel hn]; exact herr
  | cons prev rest =>
    cases hm : s.m.ctx.mode with
    | eval =>
      rw [contextClose_eval s prev rest fuel hn hm]
      exact (hrun _ (hpop rest)).bind (fun s1 h1 => hctx s1 _ h1)
    | metaEval =>
      rw [contextClose_meta s prev rest fuel hn hm]
      exact (hrun _ (hpop rest)).bind (fun s1 h1 => hclosed s1 prev h1)
    | compile =>
      rw [contextClose_compile s prev rest fuel hn hm]
      exact hctx _ prev (hpop rest)

theorem nestedEnd_all (s : Sess) (fuel : Nat) (herr : E s)
    (hclose : s.m.ctx.mode = .metaEval → s.hasPendingFlow = false → (s.contextClose fuel).All P E N) :
    (s.nestedEnd fuel).All P E N := by
  unfold Sess.nestedEnd
  split
  · exact herr
  · rename_i hm
    split
    · rename_i hp
      split
      · exact herr
      · rename_i hf; exact (pending_ne_nil hp hf).elim
    · rename_i hp
      exact hclose (by simpa using hm) (by simpa using hp)

theorem nestedEnd_ok {s t : Sess} {fuel : Nat} (h : s.nestedEnd fuel = .ok t) :
    s.hasPendingFlow = false ∧ s.contextClose fuel = .ok t := by
  have := nestedEnd_all (P := fun t => s.hasPendingFlow = false ∧ s.contextClose fuel = .ok t) (E := fun _ => True)
    (N := fun _ => True) s fuel trivial (fun _ hp => by cases hc : s.contextClose fuel <;> first | exact ⟨hp, rfl⟩ | trivial)
  rw [h] at this
  exact this

/-- dictionary and undo list once `const name` has taken `v` off the stack; `none`: the name is a word that is no constant -/
def constSet (name : String) (v : Cell) (d : List (String × Entry)) (u : List (Nat × Cell)) :
    Option (List (String × Entry) × List (Nat × Cell)) :=
  match d.findIdx? (·.1 == name) with
  | some i =>
    match d[i]? with
    | some (_, .const old) => some (d.set i (name, .const v), (d.length - 1 - i, old) :: u)
    | _ => none
  | none => some ((name, .const v) :: d, u)

theorem constSet_some {name : String} {v : Cell} {d d' : List (String × Entry)} {u u' : List (Nat × Cell)}
    (h : constSet name v d u = some (d', u')) :
    (∃ i old, d[i]? = some (name, .const old) ∧ d' = d.set i (name, .const v) ∧ u' = (d.length - 1 - i, old) :: u) ∨
    (d' = (name, .const v) :: d ∧ u' = u) := by
  unfold constSet at h
  cases hfind : d.findIdx? (·.1 == name) with
  | none => rw [hfind] at h; cases h; exact .inr ⟨rfl, rfl⟩
  | some i =>
    rw [hfind] at h
    obtain ⟨hi, hpi, _⟩ := List.findIdx?_eq_some_iff_getElem.mp hfind
    dsimp only at h
    rw [List.getElem?_eq_getElem hi] at h
    rcases hd : d[i] with ⟨nm, e⟩
    rw [hd] at h hpi
    cases e <;> cases h
    exact .inl ⟨i, _, by rw [List.getElem?_eq_getElem hi, hd, show nm = name from by simpa using hpi], rfl, rfl⟩

theorem constDef_eq (s : Sess) (name : String) (hm : s.m.ctx.mode = .metaEval) :
    s.constDef name =
      match s.m.popData with
      | (.ok v, m) =>
        match constSet name v m.dict s.constUndo with
        | some (d, u) => .ok { s with m := { m with dict := d }, constUndo := u }
        | none => .err constContext { s with m := m }
      | (.err e, m) => .err e { s with m := m }
      | (.panic p, m) => .panic p { s with m := m } := by
  have : (s.m.ctx.mode != Mode.metaEval) = false := by rw [hm]; rfl
  simp only [Sess.constDef, this, Bool.false_eq_true, if_false, constSet]
  rcases s.m.popData with ⟨o, m⟩
  cases o with
  | ok v =>
    dsimp only
    cases List.findIdx? (fun x => x.1 == name) m.dict with
    | none => rfl
    | some i =>
      dsimp only
      cases m.dict[i]? with
      | none => rfl
      | some en => obtain ⟨nm, e⟩ := en; cases e <;> rfl
  | err e => rfl
  | panic p => rfl

theorem constDef_outside (s : Sess) (name : String) (hm : s.m.ctx.mode ≠ .metaEval) :
    s.constDef name = .err (.errorMsg "const word used out of the meta-eval context") s := by
  simp only [Sess.constDef, bne_iff_ne.mpr hm, if_true]

theorem nestedEnd_outside (s : Sess) (fuel : Nat) (hm : s.m.ctx.mode ≠ .metaEval) :
    s.nestedEnd fuel = .err unbalancedContext s := by
  simp only [Sess.nestedEnd, bne_iff_ne.mpr hm, if_true]

theorem constDef_all (s : Sess) (name : String) (herr : E s)
    (hE : s.m.ctx.mode = .metaEval → E { s with m := s.m.popData.2 })
    (hN : s.m.ctx.mode = .metaEval → ∀ p, s.m.popData.1 = .panic p → N { s with m := s.m.popData.2 })
    (hP : s.m.ctx.mode = .metaEval → ∀ d u, P { s with m := { s.m.popData.2 with dict := d }, constUndo := u }) :
    (s.constDef name).All P E N := by
  by_cases hm : s.m.ctx.mode = .metaEval
  · rw [constDef_eq s name hm]
    have hE := hE hm; have hN := hN hm; have hP := hP hm
    revert hE hN hP
    rcases s.m.popData with ⟨o, m⟩
    intro hE hN hP
    cases o with
    | ok v =>
      dsimp only
      split
      · exact hP _ _
      · exact hE
    | err e => exact hE
    | panic p => exact hN p rfl
  · rw [constDef_outside s name hm]
    exact herr

theorem ofC_all (s : Sess) (r : CRes CState) (hok : ∀ c, r = .ok c → P (s.fromC c))
    (herr : ∀ e c, r = .err e c → E { (s.fromC c) with lastTok := e.tok }) : (s.ofC r).All P E N := by
  cases r with
  | ok c => exact hok c rfl
  | err e c => exact herr e c rfl
  | unsupported u => trivial

theorem tokens_nil_all {fuel depth i : Nat} {s : Sess} (hP : P { s with lastTok := i }) (hE : E { s with lastTok := i }) :
    (tokens fuel depth [] i s).All P E N := by
  simp only [tokens]
  split
  · exact hE
  · split
    · rename_i hp
      split
      · exact hE
      · rename_i hf; exact (pending_ne_nil hp hf).elim
    · exact hP

theorem tokens_nil_ok {fuel depth i : Nat} {s y : Sess} (h : tokens fuel depth [] i s = .ok y) :
    y = { s with lastTok := i } ∧ s.nested.length = depth := by
  simp only [tokens] at h
  split at h
  · cases h
  · rename_i hd
    split at h
    · split at h <;> cases h
    · cases h; exact ⟨rfl, by simpa using hd⟩

theorem tokens_all (fuel depth : Nat) (hact : ∀ k s, P s → (act fuel s k).All P E N)
    (hrun : ∀ s, P s → (s.metaRun fuel).All P E N) (htok : ∀ i s, P s → P { s with lastTok := i })
    (herr : ∀ s, P s → E s) (toks : List Tok) : ∀ i s, P s → (tokens fuel depth toks i s).All P E N := by
  induction toks using tokens_induction with
  | nil => intro i s h; exact tokens_nil_all (htok i s h) (herr _ (htok i s h))
  | cons t rest ih =>
    intro i s h
    rw [tokens_cons]
    exact ((hact _ _ (htok _ s h)).andRun hrun).bind (fun s1 h1 => ih _ _ s1 h1)

theorem tokens_ok_depth (fuel depth : Nat) (toks : List Tok) : ∀ (idx : Nat) (s s' : Sess),
    tokens fuel depth toks idx s = .ok s' → s'.nested.length = depth := by
  induction toks using tokens_induction with
  | nil =>
    intro idx s s' h
    obtain ⟨rfl, hd⟩ := tokens_nil_ok h
    exact hd
  | cons t rest ih =>
    intro idx s s' h
    rw [tokens_cons, thenTokens] at h
    split at h
    · exact ih _ _ _ _ h
    · rename_i hne; exact (hne _ h).elim

/-- the token loop overwrites the last-token marker before it reads it -/
theorem tokens_tok (fuel depth : Nat) (toks : List Tok) (idx k : Nat) (s : Sess) :
    tokens fuel depth toks idx { s with lastTok := k } = tokens fuel depth toks idx s := by
  cases toks with
  | nil => rfl
  | cons x rest => cases x <;> simp only [tokens]

theorem build1_all (fuel : Nat) (hact : ∀ k s, P s → (act fuel s k).All P E N)
    (hrun : ∀ s, P s → (s.metaRun fuel).All P E N) (htok : ∀ i s, P s → P { s with lastTok := i })
    (herr : ∀ s, P s → E s) (toks : List Tok) (s : Sess) (h : P s) : (s.build1 fuel toks).All P E N := by
  unfold Sess.build1
  exact (hrun s h).bind (fun s1 h1 => tokens_all fuel _ hact hrun htok herr toks 0 s1 h1)

theorem buildSource_all (fuel : Nat) (mode : Mode) (toks : List Tok) (s : Sess)
    (hbuild : ((s.contextOpen mode).build1 fuel toks).All P E N) (hrej : ∀ s2, E s2 → Q (unwind s s2))
    (hclose : ∀ s2 : Sess, P s2 →
      (Sess.contextClose fuel { s2 with constUndo := s2.constUndo.drop (s2.constUndo.length - s.constUndo.length),
                                        m := forgetBuildLog s.m s2.m }).All Q Q N) :
    (s.buildSource fuel mode toks).All Q N := by
  unfold Sess.buildSource
  dsimp only
  revert hbuild
  cases (s.contextOpen mode).build1 fuel toks with
  | err e s2 => exact hrej s2
  | panic p s2 => exact id
  | unsupported u => intro _; trivial
  | timeout => intro _; trivial
  | ok s2 =>
    intro h
    have h2 := hclose s2 h
    revert h2
    dsimp only
    cases Sess.contextClose fuel _ with
    | ok s3 => exact id
    | err e s3 => exact id
    | panic p s3 => exact id
    | unsupported u => intro _; trivial
    | timeout => intro _; trivial

theorem buildSource_done {fuel : Nat} {mode : Mode} {toks : List Tok} {s s' : Sess} (h : s.buildSource fuel mode toks = .done s') :
    ∃ s2, (s.contextOpen mode).build1 fuel toks = .ok s2 ∧
      Sess.contextClose fuel { s2 with constUndo := s2.constUndo.drop (s2.constUndo.length - s.constUndo.length),
                                       m := forgetBuildLog s.m s2.m } = .ok s' := by
  unfold Sess.buildSource at h
  dsimp only at h
  cases hb : (s.contextOpen mode).build1 fuel toks with
  | ok s2 =>
    rw [hb] at h
    dsimp only at h
    refine ⟨s2, rfl, ?_⟩
    cases hc : Sess.contextClose fuel _ <;> rw [hc] at h <;> cases h
    rfl
  | err e s2 => rw [hb] at h; cases h
  | panic p s2 => rw [hb] at h; cases h
  | unsupported u => rw [hb] at h; cases h
  | timeout => rw [hb] at h; cases h

theorem buildSource_rejected {fuel : Nat} {mode : Mode} {toks : List Tok} {s s' : Sess} {e : Xerr}
    (h : s.buildSource fuel mode toks = .rejected e s') :
    ∃ s2, (s.contextOpen mode).build1 fuel toks = .err e s2 ∧ s' = unwind s s2 := by
  unfold Sess.buildSource at h
  dsimp only at h
  cases hb : (s.contextOpen mode).build1 fuel toks with
  | err e2 s2 => rw [hb] at h; cases h; exact ⟨s2, rfl, rfl⟩
  | ok s2 =>
    rw [hb] at h
    dsimp only at h
    cases hc : Sess.contextClose fuel _ <;> rw [hc] at h <;> cases h
  | panic p s2 => rw [hb] at h; cases h
  | unsupported u => rw [hb] at h; cases h
  | timeout => rw [hb] at h; cases h

end

/-- the two sessions agree on what the token loop itself looks at -/
structure Reads (s t : Sess) : Prop where
  flows : s.flows = t.flows
  fsLen : s.m.ctx.fsLen = t.m.ctx.fsLen
  dict : s.m.dict = t.m.dict
  depth : s.nested.length = t.nested.length
  inMeta : (s.m.ctx.mode == .metaEval) = (t.m.ctx.mode == .metaEval)

theorem Reads.visible {s t : Sess} (v : Reads s t) : s.visible = t.visible := by
  simp only [Sess.visible, Sess.visLen, v.flows, v.fsLen]

theorem Reads.pending {s t : Sess} (v : Reads s t) : s.hasPendingFlow = t.hasPendingFlow := by
  simp only [Sess.hasPendingFlow, v.flows, v.fsLen]

section
variable {R Q E : Sess → Sess → Prop}

theorem runS_rel (s t : Sess) (fuel : Nat)
    (hnone : Mach.run nativeProg fuel s.m = none ↔ Mach.run nativeProg fuel t.m = none)
    (hsome : ∀ o a o' b, Mach.run nativeProg fuel s.m = some (o, a) → Mach.run nativeProg fuel t.m = some (o', b) →
      o = o' ∧ R { s with m := a } { t with m := b } ∧ E { s with m := a } { t with m := b }) :
    SRes.Rel R E (s.runS fuel) (t.runS fuel) := by
  unfold Sess.runS
  revert hnone hsome
  rcases Mach.run nativeProg fuel s.m with _ | ⟨o, a⟩ <;> rcases Mach.run nativeProg fuel t.m with _ | ⟨o', b⟩ <;>
    intro hnone hsome
  · trivial
  · exact absurd (hnone.mp rfl) (by simp)
  · exact absurd (hnone.mpr rfl) (by simp)
  · obtain ⟨rfl, hR, hE⟩ := hsome o a o' b rfl rfl
    cases o with
    | ok u => exact hR
    | err e => dsimp only; split <;> first | rfl | exact ⟨rfl, hE⟩
    | panic p => dsimp only; split <;> first | rfl | exact ⟨rfl, hE⟩

theorem metaRun_rel {s t : Sess} (v : Reads s t) (fuel : Nat) (h : R s t) (hrun : SRes.Rel R E (s.runS fuel) (t.runS fuel)) :
    SRes.Rel R E (s.metaRun fuel) (t.metaRun fuel) := by
  unfold Sess.metaRun
  rw [v.inMeta, v.pending]
  split
  · exact hrun
  · exact h

theorem flowErr_rel {s t : Sess} (hf : s.flows = t.flows) (herr : E s t) :
    SRes.Rel R E
      (match s.flows with
        | f :: _ => .err (flowError f) s
        | [] => .panic "flow stack" s)
      (match t.flows with
        | f :: _ => .err (flowError f) t
        | [] => .panic "flow stack" t) := by
  rw [hf]
  split <;> exact ⟨rfl, herr⟩

theorem nestedEnd_rel {s t : Sess} (v : Reads s t) (fuel : Nat) (herr : E s t)
    (hclose : s.m.ctx.mode = .metaEval → SRes.Rel R E (s.contextClose fuel) (t.contextClose fuel)) :
    SRes.Rel R E (s.nestedEnd fuel) (t.nestedEnd fuel) := by
  unfold Sess.nestedEnd
  have e : (s.m.ctx.mode != Mode.metaEval) = (t.m.ctx.mode != Mode.metaEval) := by simp only [bne, v.inMeta]
  refine SRes.Rel.ite (by rw [e]) (fun _ => ⟨rfl, herr⟩)
    (fun hm => SRes.Rel.ite (by rw [v.pending]) (fun _ => ?_) (fun _ => hclose (by simpa using hm)))
  exact flowErr_rel v.flows herr

/-- `const name` on two sessions that are both in a meta block or both outside; inside, `pop_data` answers alike and
    leaves the same dictionary -/
theorem constDef_rel {s t : Sess} (name : String) (hm : s.m.ctx.mode = .metaEval ↔ t.m.ctx.mode = .metaEval)
    (hu : s.constUndo = t.constUndo) (herr : E s t)
    (hpop : s.m.ctx.mode = .metaEval → s.m.popData.1 = t.m.popData.1 ∧ s.m.popData.2.dict = t.m.popData.2.dict ∧
      E { s with m := s.m.popData.2 } { t with m := t.m.popData.2 } ∧
      ∀ d u, R { s with m := { s.m.popData.2 with dict := d }, constUndo := u }
               { t with m := { t.m.popData.2 with dict := d }, constUndo := u }) :
    SRes.Rel R E (s.constDef name) (t.constDef name) := by
  by_cases h : s.m.ctx.mode = .metaEval
  · obtain ⟨e, hd, hp, hset⟩ := hpop h
    rw [constDef_eq s name h, constDef_eq t name (hm.mp h)]
    rw [← hu] at hp ⊢
    revert e hd hp hset
    rcases s.m.popData with ⟨o, a⟩
    rcases t.m.popData with ⟨o', b⟩
    rintro rfl hd hp hset
    dsimp only at hd ⊢
    cases o with
    | ok v =>
      dsimp only
      rw [← hd]
      cases constSet name v a.dict s.constUndo with
      | none => exact ⟨rfl, hp⟩
      | some du => exact hset du.1 du.2
    | err e => exact ⟨rfl, hp⟩
    | panic p => exact ⟨rfl, hp⟩
  · rw [constDef_outside s name h, constDef_outside t name (fun h' => h (hm.mpr h'))]
    exact ⟨rfl, herr⟩

theorem tokens_nil_rel {s t : Sess} (v : Reads s t) (fuel depth i j : Nat) (hR : R { s with lastTok := i } { t with lastTok := j })
    (hE : E { s with lastTok := i } { t with lastTok := j }) :
    SRes.Rel R E (tokens fuel depth [] i s) (tokens fuel depth [] j t) := by
  simp only [tokens]
  have vp : ({ s with lastTok := i } : Sess).hasPendingFlow = ({ t with lastTok := j } : Sess).hasPendingFlow := v.pending
  refine SRes.Rel.ite (by simp only [bne, v.depth]) (fun _ => ⟨rfl, hE⟩) (fun _ => SRes.Rel.ite (by rw [vp]) (fun _ => ?_) (fun _ => hR))
  exact flowErr_rel (s := { s with lastTok := i }) (t := { t with lastTok := j }) v.flows hE

/-- `J` relates the positions `i`, `j` of the tokens in the two sources -/
theorem tokens_rel (fuel depth : Nat) (J : Nat → Nat → Prop) (hJ : ∀ i j, J i j → J (i + 1) (j + 1))
    (hreads : ∀ s t, R s t → Reads s t) (hact : ∀ k s t, R s t → SRes.Rel R E (act fuel s k) (act fuel t k))
    (hrun : ∀ s t, R s t → SRes.Rel R E (s.metaRun fuel) (t.metaRun fuel))
    (htok : ∀ i j s t, J i j → R s t → R { s with lastTok := i } { t with lastTok := j })
    (herr : ∀ s t, R s t → E s t) (toks : List Tok) :
    ∀ i j s t, J i j → R s t → SRes.Rel R E (tokens fuel depth toks i s) (tokens fuel depth toks j t) := by
  induction toks using tokens_induction with
  | nil => intro i j s t hj h; exact tokens_nil_rel (hreads s t h) fuel depth i j (htok i j s t hj h) (herr _ _ (htok i j s t hj h))
  | cons x rest ih =>
    intro i j s t hj h
    have v := hreads s t h
    rw [tokens_cons, tokens_cons, ← v.visible, ← v.dict]
    generalize classify s.visible s.m.dict x rest = k
    have hj1 := hJ i j hj
    have hjt : J (k.tok i) (k.tok j) := by cases k <;> assumption
    have hjw : J (i + k.width) (j + k.width) := by
      cases k <;> first | exact hJ _ _ hj1 | exact hj1 | exact hj
    exact ((hact k _ _ (htok _ _ s t hjt h)).andRun hrun).bind (fun s1 t1 h1 => ih _ _ _ s1 t1 hjw h1)

end

/-- `G` relates sessions that agree on everything the session layer reads of a session, and is kept by everything the
    session layer writes; the VM's and the compiler's part are the fields `run`, `popData` and `compile` -/
structure Congruence (G : Sess → Sess → Prop) : Prop where
  ctx : ∀ {s t}, G s t → s.m.ctx = t.m.ctx
  dict : ∀ {s t}, G s t → s.m.dict = t.m.dict
  flows : ∀ {s t}, G s t → s.flows = t.flows
  nested : ∀ {s t}, G s t → s.nested = t.nested
  undo : ∀ {s t}, G s t → s.constUndo = t.constUndo
  run : ∀ {s t}, G s t → ∀ fuel, SRes.Rel G G (s.runS fuel) (t.runS fuel)
  popData : ∀ {s t}, G s t → s.m.popData.1 = t.m.popData.1 ∧ G { s with m := s.m.popData.2 } { t with m := t.m.popData.2 }
  emit : ∀ {s t}, G s t → ∀ op, G (s.emit op) (t.emit op)
  contextOpen : ∀ {s t}, G s t → ∀ mode, G (s.contextOpen mode) (t.contextOpen mode)
  setNested : ∀ {s t}, G s t → ∀ n, G { s with nested := n } { t with nested := n }
  setCtx : ∀ {s t}, G s t → ∀ c, G { s with m := { s.m with ctx := c } } { t with m := { t.m with ctx := c } }
  closed : ∀ {s t}, G s t → ∀ prev, G (s.closed prev) (t.closed prev)
  setDict : ∀ {s t}, G s t → ∀ d u,
    G { s with m := { s.m with dict := d }, constUndo := u } { t with m := { t.m with dict := d }, constUndo := u }
  compile : ∀ {s t}, G s t → ∀ k, SRes.Rel G G (s.ofC (cact s.toC k)) (t.ofC (cact t.toC k))

namespace Congruence
variable {G : Sess → Sess → Prop} (C : Congruence G)
include C

theorem reads {s t : Sess} (h : G s t) : Reads s t :=
  ⟨C.flows h, by rw [C.ctx h], C.dict h, by rw [C.nested h], by rw [C.ctx h]⟩

theorem metaRun {s t : Sess} (h : G s t) (fuel : Nat) : SRes.Rel G G (s.metaRun fuel) (t.metaRun fuel) :=
  metaRun_rel (C.reads h) fuel h (C.run h fuel)

theorem contextClose {s t : Sess} (h : G s t) (fuel : Nat) : SRes.Rel G G (s.contextClose fuel) (t.contextClose fuel) := by
  have hn := C.nested h
  cases hs : s.nested with
  | nil => rw [contextClose_nil s fuel hs, contextClose_nil t fuel (hn ▸ hs)]; exact ⟨rfl, h⟩
  | cons prev rest =>
    have ht := hn ▸ hs
    have hr := C.run (C.setNested h rest) fuel
    cases hm : s.m.ctx.mode with
    | eval =>
      rw [contextClose_eval s prev rest fuel hs hm, contextClose_eval t prev rest fuel ht (C.ctx h ▸ hm)]
      refine hr.bind (fun s1 t1 h1 => ?_)
      rw [C.ctx h1]
      exact C.setCtx h1 _
    | metaEval =>
      rw [contextClose_meta s prev rest fuel hs hm, contextClose_meta t prev rest fuel ht (C.ctx h ▸ hm)]
      exact hr.bind (fun s1 t1 h1 => C.closed h1 prev)
    | compile =>
      rw [contextClose_compile s prev rest fuel hs hm, contextClose_compile t prev rest fuel ht (C.ctx h ▸ hm)]
      exact C.setCtx (C.setNested h rest) prev

theorem constDef {s t : Sess} (h : G s t) (name : String) : SRes.Rel G G (s.constDef name) (t.constDef name) :=
  have hp := (C.popData h).2
  constDef_rel name (by rw [C.ctx h]) (C.undo h) h fun _ => ⟨(C.popData h).1, C.dict hp, hp, C.setDict hp⟩

theorem act {s t : Sess} (h : G s t) (fuel : Nat) (k : Kind) : SRes.Rel G G (act fuel s k) (act fuel t k) := by
  cases k with
  | emit op => exact C.emit h op
  | openMeta => exact C.contextOpen h _
  | closeMeta => exact nestedEnd_rel (C.reads h) fuel h fun _ => C.contextClose h fuel
  | const name => exact C.constDef h name
  | noName => exact ⟨rfl, h⟩
  | late _ | named _ _ | imm _ | word _ => exact C.compile h _

theorem tokens (fuel depth : Nat) (J : Nat → Nat → Prop) (hJ : ∀ i j, J i j → J (i + 1) (j + 1))
    (htok : ∀ i j s t, J i j → G s t → G { s with lastTok := i } { t with lastTok := j }) (toks : List Tok) :
    ∀ i j s t, J i j → G s t → SRes.Rel G G (tokens fuel depth toks i s) (tokens fuel depth toks j t) :=
  tokens_rel fuel depth J hJ (fun _ _ => C.reads) (fun k _ _ h => C.act h fuel k) (fun _ _ h => C.metaRun h fuel) htok
    (fun _ _ h => h) toks

end Congruence

end Xeh.Session
