/-
C17 — every error points at the token that caused it.

All theorems are about the executable model; the tie to /repo is the correspondence of `C17 fail` requests, where the real
interpreter's `last_err_location()` is compared field by field. Line, column and quoted line of a token are
`location_spec`'s subject (Props/C17loc.lean).
-/
import XehModel.Proofs.CompileAlign
import XehModel.Proofs.CompileOrigin
import XehModel.Proofs.CompileBlame
import XehModel.Props.C01

namespace Xeh.C17
open Xeh Xeh.Compile Xeh.Mach

/-- compiling any source on top of an aligned state leaves debug map and code aligned -/
theorem debugMap_aligned (toks : List Tok) (idx : Nat) (s s' : CState) (h : Aligned s)
    (e : compileToks toks idx s = .ok s') : s'.dmap.length = s'.code.length :=
  compileToks_aligned toks idx s s' h e

/-- the debug map is only ever extended, and every new entry names a token of the source being
    compiled (`idx` = index of its first token) -/
theorem debugMap_origin (toks : List Tok) (idx : Nat) (s s' : CState)
    (e : compileToks toks idx s = .ok s') :
    ∃ l, s'.dmap = s.dmap ++ l ∧ ∀ t ∈ l, idx ≤ t ∧ t < idx + toks.length :=
  compileToks_origin toks idx s s' e

/-- one immediate word (control structure, builder, …): everything it emits is attributed to the
    token being compiled (`lastTok`), and entries of earlier tokens are untouched — in particular
    backpatching a jump of an earlier `if`/`while`/`do`/`of` never re-attributes it -/
theorem immediate_origin (s s' : CState) (w : String) (e : immediate s w = .ok s') :
    ∃ k, s'.dmap = s.dmap ++ List.replicate k s.lastTok :=
  let ⟨k, h, _⟩ := immediate_dext s s' w e; ⟨k, h⟩

/-- an ordinary word (call, native call, variable, constant) -/
theorem word_origin (s s' : CState) (w : String) (e : buildWord s w = .ok s') :
    ∃ k, s'.dmap = s.dmap ++ List.replicate k s.lastTok :=
  let ⟨k, h, _⟩ := buildWord_dext s s' w e; ⟨k, h⟩

/-- Whatever fails while a token list is compiled — an unknown word, an unbalanced closer, a `var` inside a conditional,
    a missing name, a heap limit, anything any compiling word can raise — blames a **word of this source** (`idx` is the
    index of its first token) **or the end of the text**; never a literal, never a position outside the source. -/
theorem build_error_blames_a_word_or_the_end (toks : List Tok) (idx : Nat) (s : CState) (e : CErr) (sp : CState)
    (h : compileToks toks idx s = .err e sp) :
    e.tok = idx + toks.length ∨ (idx ≤ e.tok ∧ ∃ w, toks[e.tok - idx]? = some (.word w)) :=
  Blame.compileToks_blames toks idx s e sp h

/-- an unknown word (not a local of the definition being compiled, not in the dictionary) is blamed on itself, at once,
    in whatever state and at whatever position the compiler reaches it -/
theorem unknown_word_blames_itself (w : String) (rest : List Tok) (idx : Nat) (s : CState)
    (hloc : ((CState.topFun s.flows).bind fun ff => CState.rposition w ff.locals) = none)
    (hdict : s.dict.lookup w = none) :
    compileToks (.word w :: rest) idx s = .err ⟨.unknownWord w.toList, idx⟩ { s with lastTok := idx } :=
  Blame.unknown_word_blames_itself w rest idx s hloc hdict

/-- a structure still open when the text ends is blamed on the end of the text -/
theorem open_structure_blames_the_end (idx : Nat) (s : CState) (f : Flow) (fs : List Flow) (hf : s.flows = f :: fs) :
    compileToks [] idx s = .err ⟨flowError f, idx⟩ { s with lastTok := idx } :=
  Blame.open_structure_blames_the_end idx s f fs hf

/-- the hypotheses are met: `1 foo 2` on an empty dictionary fails at token 1, which is the word `foo` -/
example : ∃ sp, compileToks [.lit (.int 1), .word "foo", .lit (.int 2)] 0 {} = .err ⟨.unknownWord "foo".toList, 1⟩ sp := by
  rw [compileToks]
  exact ⟨_, unknown_word_blames_itself "foo" _ 1 _ (by simp [CState.emit, CState.topFun]) (by simp [CState.emit])⟩

/-- a failing instruction leaves the instruction pointer on itself (every opcode advances only after
    success), for every opcode, every native word and every machine -/
theorem runtime_error_ip (np : String → Option Prog) (m : Mach) (w : WF m) (h : (step np m).1 ≠ .ok ()) :
    (step np m).2.ctx.ip = m.ctx.ip := failing_step_keeps_ip np m w h

open Xeh.Structured in
/-- **a run-time error names the token that failed**, for every program of the structured fragment: compile the tokens
    with the flow-stack compiler, load the code, run.  If the structural evaluator (no bytecode, no instruction
    pointer) says that executing the word at token `tok` fails with error `e`, then the VM, after some number of
    successful steps, executes an instruction that fails with the same `e`, and the debug-map entry at the instruction
    pointer it is left with — the lookup `last_err_location` performs — is `tok`.  Conditionals, loops, `break`,
    case arms, calls into definitions (the failing word may be deep inside a called definition, or a recursion),
    locals: all nestings. -/
theorem runtime_error_names_its_token (np : String → Option Prog) (toks : List Tok) (m : Mach) (f : Nat)
    (st : Stmt) (ps' : PState)
    (hip : m.ctx.ip = 0) (hwf : WF m) (hlim : m.insnLimit = none)
    (hp : parseS toks { dict := m.dict, heapLen := m.heap.length } = some (st, ps')) (hsize : size st < 2^62) :
    ∃ s, compileToks toks 0 { dict := m.dict, heapLen := m.heap.length } = .ok s ∧ s.dmap = C01.dmapOf st ∧
      let m1 : Mach := { m with code := s.code, dict := s.dict,
                                heap := m.heap ++ List.replicate (s.heapLen - m.heap.length) Cell.nil }
      match evalS np (tabOf st) f st m1 with
      | .err e tok _ => ∃ n mv mv', C02.stepN np n m1 = some mv ∧ step np mv = (.err e, mv') ∧
          s.dmap[mv'.ctx.ip]? = some tok
      | _ => True := by
  obtain ⟨s, hc, hd, hrest⟩ := C01.source_means_what_it_says np toks m f st ps' hip hwf hlim hp hsize
  refine ⟨s, hc, hd, ?_⟩
  simp only at hrest ⊢
  split
  · rename_i e tok m' heq
    rw [heq] at hrest
    obtain ⟨n, mv, mv', h1, h2, _, h4⟩ := hrest
    refine ⟨n, mv, mv', h1, h2, ?_⟩
    rw [stepN_fail_ip np h1 h2 nofun ⟨hwf.ds, hwf.rs, hwf.ls, hwf.ss⟩, hd]
    exact h4
  all_goals trivial

example : Aligned ({} : CState) := rfl
/-- the jump emitted by `if` (while token 1 is being compiled) is attributed to token 1 and keeps that
    attribution when `then` (token 3) backpatches it -/
example : (immediate { lastTok := 1, code := [.loadI64 1], dmap := [0] } "if").casesOn
    (fun s => (immediate { s with lastTok := 3 } "then").casesOn (fun s' => s'.dmap = [0, 1] ∧ s'.code = [.loadI64 1, .jumpIfNot 1])
      (fun _ _ => False) (fun _ => False)) (fun _ _ => False) (fun _ => False) := by
  simp [immediate, CState.pushFlow, CState.emit, CState.origin, CState.takeFirstCond, CState.backpatchJump, fromTo]

end Xeh.C17
