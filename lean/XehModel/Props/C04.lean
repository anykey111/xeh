/-
C04 — bit-string operations depend only on the bit sequence, never on how it is stored.

Property theorems, and two lemmas only they use (`alloc_packed`, `astep_keeps`); the proofs they rest on
are in Proofs/Bitstr*.lean.
Shape of every theorem: for EVERY heap `h` and EVERY well-formed handle `s` (any start offset, any
slack after `end_`, any stale bits, borrowed or owned buffer, any reference count)

    bits h' (op h s args) = specOp (bits h s) args

where `specOp` is the plain `List Bool` operation of Model/Bits.lean, and the operation does not panic.

PROVED here (full strength): iter8, bits, seek, peek, substr, read, split_at, detach, eq_with,
to_bytes, to_bytes_with_padding, bytestr, slice, to_hex_string, append (both paths), insert, invert,
from_hex_str, BitvecBuilder::from_bin_str;
isolation ("operands and bystanders are never modified") for seek/peek/substr/read/split_at/clone/drop/detach
and, through `Frame`, for append/insert/invert;
**every operation sequence** (`pool_history_refines`, `pool_never_panics`, `other_values_are_untouched`): the pool
machine of Model/BitstrPool.lean — handles into the shared, reference-counted buffer heap, created, cloned, sliced, read,
detached, inverted, appended to, inserted into and dropped in any order — is, step for step, the machine on plain
(start, bits) values; what makes it go through is the counting invariant of Proofs/BitstrPool.lean (a buffer's count is at
least the number of live handles into it, so a write in place is a write nobody else can see).

-/
import XehModel.Proofs.BitstrParse
import XehModel.Proofs.BitstrPoolStep

namespace Xeh.C04
open Xeh Xeh.Bits Xeh.Bitstr

/-- `iter8()` yields exactly the (value, length) groups of the bit sequence -/
theorem iter8_refines (h : Heap) (s : Handle) (wf : WF h s) :
    (h.view s).iter8 = .ok (Bits.iter8 (bits h s)) :=
  View.iter8_spec _ wf.view

theorem bitsIter_refines (h : Heap) (s : Handle) (wf : WF h s) :
    (h.view s).bitsIter = .ok (bitNums (bits h s)) :=
  View.bitsIter_spec _ wf.view

/-! ### range operations: positions are absolute (`start()`/`end()` are part of the API) -/

theorem seek_refines (h : Heap) (s : Handle) (wf : WF h s) (pos : Nat) :
    (s.start ≤ pos ∧ pos ≤ s.end_ ∧ ∃ h' r, seek h s pos = (h', some r) ∧ WF h' r ∧
        bits h' r = (bits h s).drop (pos - s.start)) ∨
    (¬(s.start ≤ pos ∧ pos ≤ s.end_) ∧ seek h s pos = (h, none)) := by
  unfold seek
  by_cases hc : s.start ≤ pos ∧ pos ≤ s.end_
  · exact .inl ⟨hc.1, hc.2, _, _, if_pos hc, incRc_handle _ (drop_handle wf (Nat.add_sub_of_le hc.1).symm hc.2)⟩
  · exact .inr ⟨hc, if_neg hc⟩

theorem peek_refines (h : Heap) (s : Handle) (wf : WF h s) (n : Nat) (hn : s.start + n ≤ s.end_)
    (hu : s.end_ ≤ Bitstr.usizeMax) :
    ∃ h' r, peek h s n = (h', some r) ∧ WF h' r ∧ bits h' r = (bits h s).take n := by
  rw [peek_eq, if_pos ⟨by omega, hn⟩]
  exact ⟨_, _, rfl, incRc_handle _ (take_handle wf hn)⟩

theorem peek_none (h : Heap) (s : Handle) (n : Nat) (hn : s.end_ < s.start + n) :
    peek h s n = (h, none) := by
  rw [peek_eq, if_neg (by omega)]

theorem substr_refines (h : Heap) (s : Handle) (wf : WF h s) (a b : Nat)
    (hab : a ≤ b) (ha : s.start ≤ a) (hb : b ≤ s.end_) :
    ∃ h' r, substr h s a b = (h', some r) ∧ WF h' r ∧
      bits h' r = Bits.slice (bits h s) (a - s.start) (b - s.start) := by
  rw [substr, if_pos ⟨hab, ha, hb⟩]
  exact ⟨_, _, rfl, incRc_handle _ (sub_handle wf (Nat.add_sub_of_le ha).symm (Nat.add_sub_of_le (Nat.le_trans ha hab)).symm
    (Nat.sub_le_sub_right hab _) hb)⟩

theorem substr_none (h : Heap) (s : Handle) (a b : Nat) (hc : ¬(a ≤ b ∧ s.start ≤ a ∧ b ≤ s.end_)) :
    substr h s a b = (h, none) := by
  rw [substr, if_neg hc]

/-- `read(n)`: the result is the first `n` bits, the receiver keeps the rest -/
theorem read_refines (h : Heap) (s : Handle) (wf : WF h s) (n : Nat) (hn : s.start + n ≤ s.end_)
    (hu : s.end_ ≤ Bitstr.usizeMax) :
    ∃ h' s' r, Bitstr.read h s n = (h', s', some r) ∧ WF h' r ∧ WF h' s' ∧
      bits h' r = (bits h s).take n ∧ bits h' s' = (bits h s).drop n := by
  rw [read_eq, if_pos ⟨by omega, hn⟩]
  obtain ⟨wr, br⟩ := incRc_handle s.buf (take_handle wf hn)
  obtain ⟨ws', bs'⟩ := incRc_handle s.buf (drop_handle wf rfl hn)
  exact ⟨_, _, _, rfl, wr, ws', br, bs'⟩

theorem read_none (h : Heap) (s : Handle) (n : Nat) (hn : s.end_ < s.start + n) :
    Bitstr.read h s n = (h, s, none) := by
  rw [read_eq, if_neg (by omega)]

theorem splitAt_refines (h : Heap) (s : Handle) (wf : WF h s) (k : Nat) (hk : s.start + k ≤ s.end_)
    (hu : s.end_ ≤ Bitstr.usizeMax) :
    ∃ h' l r, splitAt h s k = (h', some (l, r)) ∧ WF h' l ∧ WF h' r ∧
      bits h' l = (bits h s).take k ∧ bits h' r = (bits h s).drop k := by
  rw [splitAt_eq, if_pos ⟨by omega, hk⟩]
  obtain ⟨wl, bl⟩ := incRc_handle s.buf (incRc_handle s.buf (take_handle wf hk))
  obtain ⟨wr, br⟩ := incRc_handle s.buf (incRc_handle s.buf (drop_handle wf rfl hk))
  exact ⟨_, _, _, rfl, wl, wr, bl, br⟩

/-! ### detach: same bits whatever the ownership situation (unique: returned as is; empty: fresh; else packed copy) -/

theorem detach_refines (h : Heap) (s : Handle) (wf : WF h s) :
    ∃ h' s', detach h s = .ok (h', s') ∧ WF h' s' ∧ bits h' s' = bits h s :=
  let ⟨h', s', h1, h2, h3, _⟩ := detach_spec h s wf
  ⟨h', s', h1, h2, h3⟩

/-- where the detached value starts inside its buffer does not depend on the ownership situation: it is
    always bit 0 (since repair e3b1a9c; before it a uniquely owned slice kept its start and a shared one
    was rebased, which `open-bitstr` + `offset` made visible) -/
theorem detach_start_is_zero (h h' : Heap) (s s' : Handle) (e : detach h s = .ok (h', s')) : s'.start = 0 :=
  detach_zero h h' s s' e

/-- `detach` changes the bits of no existing handle (any handle into an already allocated buffer) -/
theorem detach_isolation (h : Heap) (s : Handle) (wf : WF h s) (t : Handle) (ht : t.buf < h.next) :
    ∃ h' s', detach h s = .ok (h', s') ∧ bits h' t = bits h t :=
  let ⟨h', s', h1, _, _, h4⟩ := detach_spec h s wf
  ⟨h', s', h1, h4 t ht⟩

/-! ### equality: both the byte-slice fast path and the `iter8` path decide equality of the bit sequences -/

theorem eqWith_refines (h : Heap) (a b : Handle) (wa : WF h a) (wb : WF h b) :
    (h.view a).eqWith (h.view b) = .ok (decide (bits h a = bits h b)) :=
  View.eqWith_spec _ _ wa.view wb.view

theorem toBytesWithPadding_refines (h : Heap) (s : Handle) (wf : WF h s) :
    (h.view s).toBytesWithPadding = .ok (toBytesPad (bits h s)) :=
  View.toBytesWithPadding_spec _ wf.view

theorem toBytes_refines (h : Heap) (s : Handle) (wf : WF h s) :
    (h.view s).toBytes = .ok (Bits.toBytes (bits h s)) :=
  View.toBytes_spec _ wf.view

theorem bytestr_refines (h : Heap) (s : Handle) (wf : WF h s) :
    (h.view s).bytestr = .ok (Bits.toBytes (bits h s)) :=
  View.bytestr_spec _ wf.view

theorem toHexString_refines (h : Heap) (s : Handle) (wf : WF h s) :
    (h.view s).toHexString = .ok (toHex (bits h s)) :=
  View.toHexString_spec _ wf.view

/-- `slice()` is the zero-copy accessor: by contract it answers only for byte-aligned byte-multiple
    values; when it answers, the bytes spell exactly the bit sequence -/
theorem slice_refines (h : Heap) (s : Handle) (wf : WF h s) (ha : s.start % 8 = 0)
    (hl : (s.end_ - s.start) % 8 = 0) :
    ∃ bs, (h.view s).slice = .ok (some bs) ∧ bits h s = ofBytes bs :=
  let ⟨bs, h1, h2, _⟩ := View.slice_spec _ wf.view ha hl
  ⟨bs, h1, h2⟩

theorem slice_unaligned (h : Heap) (s : Handle) (hn : ¬(s.start % 8 = 0 ∧ (s.end_ - s.start) % 8 = 0)) :
    (h.view s).slice = .ok none :=
  View.slice_none _ hn

/-- the range operations, `clone` and `drop` change the bits of no handle whatsoever (they only touch
    reference counts) — the "operands are never modified" half for these operations -/
theorem range_ops_isolation (h : Heap) (s t : Handle) (a b : Nat) :
    bits (seek h s a).1 t = bits h t ∧ bits (peek h s a).1 t = bits h t ∧
    bits (substr h s a b).1 t = bits h t ∧ bits (Bitstr.read h s a).1 t = bits h t ∧
    bits (splitAt h s a).1 t = bits h t ∧ bits (clone h s).1 t = bits h t ∧ bits (drop h s) t = bits h t := by
  simp only [seek, peek_eq, substr, read_eq, splitAt_eq, clone, drop, apply_ite Prod.fst, apply_ite (bits · t), bits_incRc,
    bits_decRc, ite_self, and_self]

/-- hypotheses are satisfiable by a non-trivial state: a 13-bit slice at bit offset 3 -/
example : WF (fromVec Heap.empty [0xab, 0xcd, 0xef]).1 ⟨3, 16, 0⟩ := by
  refine ⟨⟨by decide, by decide, ?_⟩, by decide, by decide⟩
  intro b hb
  simp [fromVec, Heap.alloc, Heap.view, Heap.empty] at hb
  omega

/-! ### the mutating operations: append, insert, invert (bitstr.rs `append_bits_mut`, `append`, `insert`, `invert`)

The receiver is consumed.  `Frame h h' b` (Proofs/BitstrMut.lean) says what may happen to the rest of the heap:
every buffer other than the receiver's `b` is untouched, and `b`, when anybody else also holds it (count ≥ 2),
keeps its bytes and loses exactly one count.  The hypothesis on the argument `t` of `append` is the reference-count
discipline itself: the receiver is passed by value and `t` by reference, so if both point into one buffer its
count is at least 2. -/

/-- `append`: BOTH paths (byte-aligned `extend_from_slice`, and the bit loop after truncation to the receiver's
    end and masking of the slack bits of the last byte), any start offset, slack and stale bits after `end`,
    shared or uniquely owned receiver -/
theorem append_refines (h : Heap) (s t : Handle) (ws : WF h s) (wt : WF h t)
    (ht : t.buf = s.buf → 2 ≤ (h.buf s.buf).rc) :
    ∃ h' r, append h s t = .ok (h', r) ∧ WF h' r ∧ bits h' r = bits h s ++ bits h t ∧ Frame h h' s.buf := by
  obtain ⟨h', r, h1, h2, h3, _, h5⟩ := append_spec h s t ws wt ht
  exact ⟨h', r, h1, h2, h3, h5⟩

/-- `insert` at a valid index (no sharing hypothesis at all: the receiver is split first, so its buffer is
    never written, and the inserted value may even be a clone of the receiver) -/
theorem insert_refines (h : Heap) (s t : Handle) (k : Nat) (ws : WF h s) (wt : WF h t)
    (hk : s.start + k ≤ s.end_) (hu : s.end_ ≤ Bitstr.usizeMax) :
    ∃ h' r, insert h s k t = .ok (h', some r) ∧ WF h' r ∧
      bits h' r = (bits h s).take k ++ bits h t ++ (bits h s).drop k ∧ Frame h h' s.buf := by
  obtain ⟨h', r, h1, h3, c⟩ := insert_strong h s t k ws wt hk (by omega)
  exact ⟨h', r, h1, c.wf, h3, c.frame⟩

/-- `insert` at an index past the end (or overflowing): `None`, the receiver is dropped, nothing written -/
theorem insert_out_of_range (h : Heap) (s t : Handle) (k : Nat)
    (hk : ¬(s.start + k ≤ s.end_ ∧ s.start + k ≤ Bitstr.usizeMax)) :
    insert h s k t = .ok (drop h s, none) := insert_invalid h s t k hk

theorem invert_refines (h : Heap) (s : Handle) (ws : WF h s) :
    ∃ h' r, invert h s = .ok (h', r) ∧ WF h' r ∧ bits h' r = Bits.invert (bits h s) ∧ Frame h h' s.buf := by
  obtain ⟨h', r, h1, h3, c⟩ := invert_strong h s ws
  exact ⟨h', r, h1, c.wf, h3, c.frame⟩

/-- isolation for append / insert / invert: whatever handle `u` exists besides the consumed receiver (into any
    buffer; into the receiver's own buffer only if the count says so) denotes the same bits afterwards and is
    still well formed.  In-place mutation happens only when the count is 1, i.e. when no such `u` shares the buffer. -/
theorem handle_isolation (h h' : Heap) (b : Nat) (f : Frame h h' b) (u : Handle) (wu : WF h u)
    (hu : u.buf = b → 2 ≤ (h.buf b).rc) : WF h' u ∧ bits h' u = bits h u :=
  f.isolation u wu hu

/-- the result of append / insert / invert is uniquely owned: a later in-place mutation of it is invisible to everyone -/
theorem mutated_result_is_unique (h : Heap) (s t : Handle) (k : Nat) (ws : WF h s) (wt : WF h t) :
    (∀ h' r, invert h s = .ok (h', r) → (h'.buf r.buf).rc = 1) ∧
    ((t.buf = s.buf → 2 ≤ (h.buf s.buf).rc) → ∀ h' r, append h s t = .ok (h', r) → (h'.buf r.buf).rc = 1) ∧
    (s.start + k ≤ s.end_ → s.end_ ≤ Bitstr.usizeMax →
      ∀ h' r, insert h s k t = .ok (h', some r) → (h'.buf r.buf).rc = 1) := by
  refine ⟨?_, ?_, ?_⟩
  · intro h' r e
    obtain ⟨h'', r', h1, _, c⟩ := invert_strong h s ws
    rw [h1] at e; cases e; exact c.unique
  · intro ht h' r e
    obtain ⟨h'', r', h1, _, _, h4, _⟩ := append_spec h s t ws wt ht
    rw [h1] at e; cases e; exact h4
  · intro hk hu h' r e
    obtain ⟨h'', r', h1, _, c⟩ := insert_strong h s t k ws wt hk (by omega)
    rw [h1] at e; cases e; exact c.unique

/-- the hypotheses are satisfiable in the interesting situation: a 13-bit slice at bit offset 3 of a SHARED
    buffer (count 2), appended to itself -/
example :
    let h : Heap := ((fromVec Heap.empty [0xab, 0xcd, 0xef]).1).incRc 0
    WF h ⟨3, 16, 0⟩ ∧ (((⟨3, 16, 0⟩ : Handle).buf = (⟨3, 16, 0⟩ : Handle).buf) → 2 ≤ (h.buf 0).rc) := by
  refine ⟨⟨⟨by decide, by decide, ?_⟩, by decide, by decide⟩, fun _ => by decide⟩
  intro b hb
  simp [fromVec, Heap.alloc, Heap.view, Heap.empty, Heap.incRc, Heap.set] at hb
  omega

/-! ### parsing: `from_hex_str`, `BitvecBuilder::from_bin_str` -/

/-- what `from_hex_str` and `from_bin_str` do with the buffer they have built: allocated as a value of `l.length` bits
    from bit 0 it denotes `l`; an error position is handed on. The hypothesis is what `fromHexBytes_spec` and
    `fromBinBytes_spec` conclude about the byte loop `x` and the plain parser `y`; the conclusion is the shape of
    `fromHexStr_refines` and `fromBinStr_refines`. -/
theorem alloc_packed (h : Heap) {x : Except Nat (List Nat × Nat)} {y : Except Nat (List Bool)} :
    (match x, y with
      | .ok (buf, n), .ok l => buf = pack l ∧ n = l.length
      | .error p, .error q => p = q
      | _, _ => False) →
    match (match x with
        | .error p => .error p
        | .ok (buf, n) => let (h', b) := h.alloc buf false; .ok (h', ⟨0, n, b⟩) : Except Nat (Heap × Handle)), y with
    | .ok (h', s), .ok l => bits h' s = l ∧ WF h' s ∧ s.start = 0
    | .error p, .error q => p = q
    | _, _ => False := by
  intro key
  cases x with
  | error e => cases y <;> exact key
  | ok res =>
    obtain ⟨buf, n⟩ := res
    cases y with
    | error q => exact key
    | ok l =>
      obtain ⟨rfl, rfl⟩ := key
      obtain ⟨e1, e2⟩ := alloc_pack h l
      exact ⟨e2, e1, rfl⟩

/-- `from_hex_str`: the value built nibble by nibble (`push(val << 4)` / `|= val`) denotes exactly the bits of
    `parseHex` (4 per digit, ASCII whitespace skipped), starts at bit 0, and a malformed string is rejected at
    the same character index -/
theorem fromHexStr_refines (h : Heap) (cs : List Char) :
    match fromHexStr h cs, parseHex cs with
    | .ok (h', s), .ok l => bits h' s = l ∧ WF h' s ∧ s.start = 0
    | .error p, .error q => p = q
    | _, _ => False :=
  alloc_packed h (by have := fromHexBytes_spec cs 0 [] rfl; rwa [pack_nil] at this)

/-- `BitvecBuilder::from_bin_str` (and with it `append_bit` / `finish`) -/
theorem fromBinStr_refines (h : Heap) (cs : List Char) :
    match fromBinStr h cs, parseBin cs with
    | .ok (h', s), .ok l => bits h' s = l ∧ WF h' s ∧ s.start = 0
    | .error p, .error q => p = q
    | _, _ => False :=
  alloc_packed h (by have := fromBinBytes_spec cs 0 []; rwa [pack_nil] at this)

/-! ### every operation sequence (the quantifier of the property: "all ownership situations reachable through the public
    API …, all operation sequences") -/

/-- **Any history.** Start from no values at all and run ANY sequence of pool operations (Model/BitstrPool.lean: new
    values owned or static, clone, drop, read, peek, seek, substr, split, detach, invert, append, insert — the receivers of
    the last four are consumed, as in the Rust API). If the concrete machine — handles into shared buffers with reference
    counts, copy on write when the count is above one, write in place when it is one — gets through, then at the end every
    live slot holds a well-formed handle whose start and whose bits are exactly what the machine on PLAIN values
    (`APool.run`: lists of bits and a start position, no buffers, no sharing) computes for that slot, and the empty slots
    are the same. Whatever ownership situation the history produced — a slice whose parent is alive, or dropped; a static
    buffer; the result of an earlier append; stale bits behind the end; a buffer shared by five handles — is one of the
    states this theorem quantifies over. -/
theorem pool_history_refines (ops : List PoolOp) (p' : Pool) (h : Pool.run ops {} = some p') :
    p'.slots.length = (APool.run ops []).length ∧
    (∀ (i : Nat) (s : Handle), p'.slots[i]? = some (some s) →
      WF p'.heap s ∧ (APool.run ops [])[i]? = some (some (s.start, bits p'.heap s))) ∧
    (∀ (i : Nat), p'.slots[i]? = some none → (APool.run ops [])[i]? = some none) ∧
    (∀ b, cnt p'.slots b ≤ (p'.heap.buf b).rc) := by
  have inv := run_refines ops {} [] PoolInv.empty p' h
  exact ⟨inv.len, inv.live, inv.dead, inv.count⟩

/-- one step, from any state the invariant describes (so: from any state a history reaches) -/
theorem pool_step_refines (p : Pool) (a : List (Option AVal)) (inv : PoolInv p a) (op : PoolOp) (p' : Pool)
    (hs : p.step op = some p') : PoolInv p' (APool.step a op) := step_refines p a inv op p' hs

/-- **No operation the API can express gets stuck**: on every state a history reaches, every operation with live operands
    (two different ones for `append` / `insert`: the receiver is moved) returns — `detach`, `invert`, `append`, `insert`
    never panic, whatever the alignment, the slack and the sharing -/
theorem pool_never_panics (ops : List PoolOp) (p : Pool) (h : Pool.run ops {} = some p) (op : PoolOp)
    (hv : op.Valid p.slots) : ∃ p', p.step op = some p' :=
  step_total p _ (run_refines ops {} [] PoolInv.empty p h) op hv

/-- the slot an operation replaces (its receiver), if any; every other operation only adds values -/
def writes : PoolOp → Option Nat
  | .drop i | .read i _ | .detach i | .invert i | .append i _ | .insert i _ _ => some i
  | _ => none

/-- a step appends values and replaces at most the slot it writes -/
theorem astep_keeps (a : List (Option AVal)) (op : PoolOp) (j : Nat) (hj : j < a.length) (hw : writes op ≠ some j) :
    (APool.step a op)[j]? = a[j]? := by
  have happ : ∀ x : List (Option AVal), (a ++ x)[j]? = a[j]? := fun x => List.getElem?_append_left hj
  have hset : ∀ (i : Nat) (v : Option AVal), writes op = some i → (a.set i v)[j]? = a[j]? :=
    fun i v hi => List.getElem?_set_ne (fun e => hw (by rw [hi, e]))
  cases op with
  | newVec | newStatic | empty => exact happ _
  | clone | peek | seek | substr | split =>
    simp only [APool.step]
    repeat' split
    all_goals first | exact happ _ | rfl
  | drop i | detach i | invert i | append i | insert i =>
    simp only [APool.step]
    repeat' split
    all_goals first | exact hset i _ rfl | rfl
  | read i =>
    simp only [APool.step]
    repeat' split
    · rw [List.getElem?_append_left (by simpa using hj)]; exact hset i _ rfl
    all_goals rfl

/-- **Operands and bystanders are never modified** — over histories, and however the buffers are shared: an operation
    leaves every value other than its consumed receiver exactly as it was — the same start, the same bits — also a value
    that lives in the very buffer the operation writes to (a clone held by a snapshot of the interpreter, a slice of the
    same input, the argument of `append`) -/
theorem other_values_are_untouched (p : Pool) (a : List (Option AVal)) (inv : PoolInv p a) (op : PoolOp) (p' : Pool)
    (hs : p.step op = some p') (j : Nat) (s : Handle) (hj : p.slots[j]? = some (some s)) (hw : writes op ≠ some j) :
    ∃ s', p'.slots[j]? = some (some s') ∧ s'.start = s.start ∧ bits p'.heap s' = bits p.heap s := by
  have inv' := step_refines p a inv op p' hs
  have hlt : j < a.length := by rw [← inv.len]; exact (List.getElem?_eq_some_iff.mp hj).1
  have ha : (APool.step a op)[j]? = some (some (s.start, bits p.heap s)) := by
    rw [astep_keeps a op j hlt hw]; exact (inv.live j s hj).2
  have hlt' : j < p'.slots.length := by
    rw [inv'.len]
    exact (List.getElem?_eq_some_iff.mp ha).1
  cases hx : p'.slots[j]? with
  | none => exact absurd hx (by simp; omega)
  | some o =>
    cases o with
    | none => have := inv'.dead j hx; rw [ha] at this; cases this
    | some s' =>
      have := (inv'.live j s' hx).2
      rw [ha] at this
      simp only [Option.some.injEq, Prod.mk.injEq] at this
      exact ⟨s', rfl, this.1.symm, this.2.symm⟩

/-- **What is observed of a value depends on its bits alone, after any history**: on every state a history reaches,
    iteration, byte and hex export and equality of live values answer exactly what the plain-list operations of
    Model/Bits.lean answer on the values the PLAIN machine holds in those slots — wherever the handles lie in their
    buffers, whoever shares those buffers, whatever stale bits surround them. -/
theorem pool_queries_see_only_the_bits (ops : List PoolOp) (p : Pool) (h : Pool.run ops {} = some p)
    (i : Nat) (s : Handle) (hi : p.slots[i]? = some (some s)) :
    ∃ l, (APool.run ops [])[i]? = some (some (s.start, l)) ∧
      (p.heap.view s).iter8 = .ok (Bits.iter8 l) ∧ (p.heap.view s).bitsIter = .ok (bitNums l) ∧
      (p.heap.view s).toBytes = .ok (Bits.toBytes l) ∧ (p.heap.view s).bytestr = .ok (Bits.toBytes l) ∧
      (p.heap.view s).toBytesWithPadding = .ok (toBytesPad l) ∧ (p.heap.view s).toHexString = .ok (toHex l) ∧
      ∀ (j : Nat) (t : Handle), p.slots[j]? = some (some t) →
        ∃ m, (APool.run ops [])[j]? = some (some (t.start, m)) ∧
          (p.heap.view s).eqWith (p.heap.view t) = .ok (decide (l = m)) := by
  obtain ⟨_, live, _, _⟩ := pool_history_refines ops p h
  obtain ⟨ws, ha⟩ := live i s hi
  refine ⟨bits p.heap s, ha, iter8_refines _ _ ws, bitsIter_refines _ _ ws, toBytes_refines _ _ ws,
    bytestr_refines _ _ ws, toBytesWithPadding_refines _ _ ws, toHexString_refines _ _ ws, ?_⟩
  intro j t hj
  obtain ⟨wt, hb⟩ := live j t hj
  exact ⟨bits p.heap t, hb, eqWith_refines _ _ _ ws wt⟩

/-- non-vacuity of the history theorems: a buffer shared by three handles, one of them detached and inverted in place,
    another appended to — the concrete machine gets through, and the values are the plain ones -/
example :
    let ops : List PoolOp := [.newVec [0xab, 0xcd], .substr 0 4 12, .clone 1, .invert 1, .append 2 0, .read 0 3, .insert 0 2 1, .drop 2]
    ((Pool.run ops {}).map fun p => p.slots.map fun o => o.map fun s => (s.start, bits p.heap s)) = some (APool.run ops []) := by
  decide +kernel

/-- non-vacuity: a well-formed and a malformed hex string -/
example : parseHex ['a', ' ', '5'] = .ok [true, false, true, false, false, true, false, true] ∧
    parseHex ['a', ' ', 'g'] = .error 2 := ⟨by rfl, by rfl⟩

end Xeh.C04
