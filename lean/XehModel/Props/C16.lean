/-
C16 — the lexer is total, loses no text, and reads literals as written; printing an integer,
bit-string, or vector/map of those and reading the text back yields an equal value.

The model is Model/Lex.lean
(`Lex.next` = `scan` on the remaining input, character by character with byte positions) and
Model/Print.lean (the `Debug for Cell` printer under `FmtFlags`).

* Totality is by construction: every function of Model/Lex.lean is structurally recursive on the
  remaining input (Lean accepted the definitions); `run_terminates`, `run_fuel_irrelevant`,
  `nextNonws_returns` are the all-fuel statements for the two driver loops.
* Reals: decimal → double (`str::parse::<f64>`) is a parameter, DESIGN §9 C16 "not carried": a real
  literal is `Tok.realLit text` where `text` is exactly what reaches the parser; `real_text`
  states which text that is and when the token is rejected instead.
* Vectors / maps: stated at token level (`value_print_tokens`, for ANY nesting of vectors and
  maps over in-range integers and bit-strings): the print lexes without error to `[`/`{`, the
  element literals (value before key for maps), `]`/`}`, separated by single blanks — the
  token list `toks v` defined by recursion on the value. That the words `[ … ]` / `{ v k … }`
  rebuild the value from those tokens is the compiler's and VM's business (C01/C12) and is
  checked here on the implementation only (format_cell → eval → `==` / `equal?`).
* Non-default format flags: `hex_print_not_readable` is the proved counterexample backing the
  recorded finding `[nondefault-fmt]` (^hex prints −1 as 32 f's, which the lexer rejects).
-/
import XehModel.Proofs.LexTiling
import XehModel.Proofs.LexNum
import XehModel.Proofs.LexBits
import XehModel.Proofs.LexStr
import XehModel.Proofs.LexSeq

namespace Xeh.C16
open Xeh Xeh.Lex Xeh.Print

/-! ### totality, progress, tiling -/

/-- every token except EndOfInput consumes at least one byte (and at least one character) -/
theorem next_progress (lx : Lex) (h : lx.next.1 ≠ .ok .eof) :
    lx.next.2.pos ≥ lx.pos + 1 ∧ lx.next.2.rest.length < lx.rest.length := by
  have h1 := next_consumes (lx' := lx.next.2) rfl h
  have h2 := next_split (lx := lx) (lx' := lx.next.2) rfl
  have := utf8Len_pos h1.1
  exact ⟨by omega, h1.2⟩

/-- the token reported by `next` is the text between the old and the new position
    (`last_substr()`), the next token starts where this one ended, nothing is skipped; a word /
    whitespace / comment token carries exactly that text -/
theorem next_tiling (lx : Lex) :
    lx.next.2.startPos = lx.pos ∧
    lx.next.2.pos = lx.pos + utf8Len lx.next.2.lastSubstr ∧
    lx.rest = lx.next.2.lastSubstr ++ lx.next.2.rest ∧
    (∀ s, lx.next.1 = .ok (.word s) → s = lx.next.2.lastSubstr) ∧
    (∀ s, lx.next.1 = .ok (.ws s) → s = lx.next.2.lastSubstr) ∧
    (∀ s, lx.next.1 = .ok (.comment s) → s = lx.next.2.lastSubstr) := by
  have h := next_split (lx := lx) (lx' := lx.next.2) rfl
  refine ⟨h.2.1, h.2.2, h.1.symm, ?_⟩
  by_cases h0 : lx.rest = []
  · simp [Lex.next, h0, scan, spanP]
  · have t := (next_text lx h0).text
    exact ⟨t.1, t.2.1, t.2.2.1⟩

/-- EndOfInput is reported only when nothing is left -/
theorem eof_only_at_end (lx : Lex) (h : lx.next.1 = .ok .eof) : lx.rest = [] :=
  (next_eof (lx := lx) (lx' := lx.next.2) (by rw [← h])).1

/-- lexing a whole text stops at EndOfInput with nothing left, or at the first error -/
theorem run_terminates (text : List Char) :
    (run text).err.isSome ∨ (run text).final.rest = [] :=
  (runFuel_spec _ _).2.2.2 (by simp [Lex.new])

/-- the step bound of `run` is immaterial: any larger bound gives the same run -/
theorem run_fuel_irrelevant (text : List Char) (n : Nat) (hn : text.length < n) :
    runFuel n (Lex.new text) = run text :=
  runFuel_enough _ _ _ (by simpa [Lex.new] using hn) (by simp [Lex.new])

/-- `next_nonws` always returns, and its answer does not depend on the step bound -/
theorem nextNonws_returns (lx : Lex) :
    ∃ r, lx.nextNonws = some r ∧ ∀ m, lx.rest.length < m → Lex.nextNonwsFuel m lx = some r :=
  nextNonwsFuel_some _ lx (Nat.lt_succ_self _)

/-- the token texts, concatenated in order, then the text of the failing token (if any), then
    what was not looked at, are exactly the input -/
theorem tokens_concat (text : List Char) :
    ((run text).items.map (·.text)).flatten ++ (run text).errText ++ (run text).final.rest = text :=
  (runFuel_spec _ (Lex.new text)).1

/-- without an error the token texts reproduce the whole input -/
theorem tokens_concat_ok (text : List Char) (h : (run text).err = none) :
    ((run text).items.map (·.text)).flatten = text := by
  have h1 := tokens_concat text
  have h2 := run_terminates text
  simp only [h, Option.isSome_none, Bool.false_eq_true, false_or] at h2
  simpa [Run.errText, h, h2] using h1

/-- the reported byte ranges are contiguous from 0, each as long as its text, and the failing
    token (if any) starts where the last good one ended and is as long as its text -/
theorem ranges_contiguous (text : List Char) :
    tiles 0 (run text).items (run text).endPos ∧
    (∀ e t lo hi, (run text).err = some (e, t, lo, hi) → lo = (run text).endPos ∧ hi = lo + utf8Len t) := by
  have h := (runFuel_spec (text.length + 1) (Lex.new text)).2
  exact ⟨h.1, fun e t lo hi he => ⟨by rw [Run.endPos, he], h.2.1 e t lo hi he⟩⟩

/-- printing any i128 (default flags: decimal) and lexing the text, followed by end of input or
    ASCII whitespace, yields exactly that integer literal and consumes exactly the print -/
theorem int_print_read (pos : Nat) (i : Int) (hi : InRange i) (rest : List Char) (hr : Sep rest) :
    scan pos (printInt {} i ++ rest) = ⟨.ok (.lit (.int i)), printInt {} i, rest⟩ :=
  scan_printDec pos i hi rest hr

/-- the printer's digit string denotes the number, in every base 2..36 and both letter cases
    (`digitsVal` is the positional value `from_str_radix` computes) -/
theorem print_digits_value (b : Nat) (up : Bool) (hb2 : 2 ≤ b) (hb : b ≤ 36) (n : Nat) :
    digitsVal b (natDigits b up n) 0 = some n :=
  digitsVal_natDigits b up hb2 hb n

/-- `sign? 0x digits` and `sign? 0b digits` (with `_` anywhere among the digits) denote the
    signed positional value of the digits when that is an i128, and are rejected otherwise -/
theorem radix_value (pos : Nat) (sg : List Char) (hsg : IsSign sg) (pc : Char) (R : Nat)
    (hp : (pc = 'x' ∧ R = 16) ∨ (pc = 'b' ∧ R = 2))
    (body rest : List Char) (hb : ∀ x ∈ body, isWs x = false) (hr : Sep rest)
    (v : Nat) (hne : body.filter (· != '_') ≠ []) (hv : digitsVal R (body.filter (· != '_')) 0 = some v) :
    scan pos (sg ++ '0' :: pc :: body ++ rest) =
      numStep pos
        (if InRange (if sg = ['-'] then -(v : Int) else (v : Int))
         then .ok (.lit (.int (if sg = ['-'] then -(v : Int) else (v : Int))))
         else .error .parseInt)
        (sg ++ '0' :: pc :: body) rest := by
  exact scan_numeral pos hsg rfl [pc] body rest hb hr (radixPrefix_some sg hp _) rfl rfl hne hv

/-- a numeral starting with a non-zero digit is decimal -/
theorem decimal_value (pos : Nat) (sg : List Char) (hsg : IsSign sg) (d : Char) (hd : isDigit d = true)
    (hd0 : d ≠ '0') (body rest : List Char) (hb : ∀ x ∈ body, isWs x = false) (hr : Sep rest)
    (v : Nat) (hv : digitsVal 10 (d :: body.filter (· != '_')) 0 = some v) :
    scan pos (sg ++ d :: body ++ rest) =
      numStep pos
        (if InRange (if sg = ['-'] then -(v : Int) else (v : Int))
         then .ok (.lit (.int (if sg = ['-'] then -(v : Int) else (v : Int))))
         else .error .parseInt)
        (sg ++ d :: body) rest := by
  exact scan_numeral pos hsg hd [] body rest hb hr (radixPrefix_none d _ _ hd0) (by simp [hd0]) (by simp)
    (by simp) hv

/-- a leading `0` not followed by `x`/`b` means hexadecimal -/
theorem leading_zero_hex_value (pos : Nat) (sg : List Char) (hsg : IsSign sg)
    (body rest : List Char) (hb : ∀ x ∈ body, isWs x = false) (hr : Sep rest)
    (hnx : ∀ c t, body = c :: t → c ≠ 'x' ∧ c ≠ 'b')
    (v : Nat) (hv : digitsVal 16 (body.filter (· != '_')) 0 = some v) :
    scan pos (sg ++ '0' :: body ++ rest) =
      numStep pos
        (if InRange (if sg = ['-'] then -(v : Int) else (v : Int))
         then .ok (.lit (.int (if sg = ['-'] then -(v : Int) else (v : Int))))
         else .error .parseInt)
        (sg ++ '0' :: body) rest := by
  have hv' : digitsVal 16 ('0' :: body.filter (· != '_')) 0 = some v := by simpa [digitsVal, toDigit] using hv
  refine scan_numeral pos hsg rfl [] body rest hb hr (radixPrefix_zero _ _ fun c hc => ?_) rfl (by simp)
    (by simp) hv'
  cases body with
  | nil => have := hr.head c hc; constructor <;> (rintro rfl; cases this)
  | cons a t => cases hc; exact hnx _ _ rfl

/-- `_` in the body of a numeral is ignored -/
theorem underscore_ignored (d : Char) (radix : Option Nat) (tmp1 body : List Char) :
    numDecide d radix tmp1 body = numDecide d radix tmp1 (body.filter (· != '_')) := by
  unfold numDecide
  simp only [any_dot_filter, List.filter_filter, Bool.and_self]

/-- `from_str_radix` yields `i` exactly for a well-formed digit string whose signed value is `i`
    and lies in the i128 range: invalid digits, a missing digit, a second sign and overflow are
    all rejected -/
theorem overflow_rejected (radix : Nat) (s : List Char) (i : Int) :
    parseInt radix s = some i ↔
      ∃ n, (splitSign s).2 ≠ [] ∧ digitsVal radix (splitSign s).2 0 = some n ∧
        i = (if (splitSign s).1 then -(n : Int) else (n : Int)) ∧ InRange i := by
  unfold parseInt
  simp only []
  constructor
  · intro h
    by_cases he : (splitSign s).2.isEmpty = true
    · rw [if_pos he] at h; simp at h
    · rw [if_neg he] at h
      cases hn : digitsVal radix (splitSign s).2 0 with
      | none => simp [hn] at h
      | some n =>
        simp only [hn] at h
        by_cases hr : InRange (if (splitSign s).1 = true then -(n : Int) else (n : Int))
        · rw [if_pos hr] at h
          simp at h
          exact ⟨n, by simpa using he, rfl, h.symm, h ▸ hr⟩
        · rw [if_neg hr] at h; simp at h
  · rintro ⟨n, hne, hn, hi, hr⟩
    have : (splitSign s).2.isEmpty = false := by simpa using hne
    simp only [this, hn]
    subst hi
    simp [hr]

/-- whatever a numeric token is, it is an integer literal, a real literal, or an error -/
theorem numeral_kinds {d : Char} {radix : Option Nat} {tmp1 body : List Char} {t : Tok}
    (h : numDecide d radix tmp1 body = .ok t) : (∃ i, t = .lit (.int i)) ∨ (∃ s, t = .realLit s) :=
  numDecide_ok h

/-- a `.` anywhere in the token makes it a real: rejected under a radix prefix, otherwise the
    text handed to the float parser is sign + digits with `_` removed, and the token is a literal
    exactly when that text is in the parser's grammar -/
theorem real_text (d : Char) (radix : Option Nat) (tmp1 body : List Char) (hd : body.any (· == '.') = true) :
    numDecide d radix tmp1 body =
      if radix.isSome then .error .parseFloat
      else if validFloat (tmp1 ++ body.filter (· != '_')) then .ok (.realLit (tmp1 ++ body.filter (· != '_')))
      else .error .parseFloat := by
  unfold numDecide
  simp only [hd]
  rfl

/-- a literal opened by `"` or `“`, whose body consists of raw characters (anything except `\`,
    `"`, `”`) and the five escapes `\\ \" \n \r \t`, closed by `"` or `”` and followed by a
    separator, is the string of the pieces' values -/
theorem escape_decode (pos : Nat) (o q : Char) (ho : o = '"' ∨ o = '“') (hq : q = '"' ∨ q = '”')
    (ps : List Piece) (hps : ∀ p ∈ ps, p.Ok) (rest : List Char) (hr : Sep rest) :
    scan pos (o :: (ps.flatMap Piece.text ++ q :: rest)) =
      ⟨.ok (.lit (.str (ps.map Piece.val))), o :: (ps.flatMap Piece.text ++ [q]), rest⟩ := by
  have ho1 : isWs o = false := by rcases ho with rfl | rfl <;> rfl
  rw [scan_nonws_head pos o _ ho1, scanTok_quote pos o _ ho, scanStr_pieces ps hps q hq rest, hr.sepOk]

theorem escape_table :
    unescape '\\' = some '\\' ∧ unescape '"' = some '"' ∧ unescape 'n' = some '\n' ∧
    unescape 'r' = some '\r' ∧ unescape 't' = some '\t' ∧
    (∀ k, k ≠ '\\' → k ≠ '"' → k ≠ 'n' → k ≠ 'r' → k ≠ 't' → unescape k = none) := by
  refine ⟨rfl, rfl, rfl, rfl, rfl, ?_⟩
  intro k h1 h2 h3 h4 h5
  exact unescape_none (by simp [Piece.Ok, h1, h2, h3, h4, h5])

/-- any other escape is an error pointing at the two characters of the escape -/
theorem bad_escape_rejected (pos : Nat) (o : Char) (ho : o = '"' ∨ o = '“')
    (ps : List Piece) (hps : ∀ p ∈ ps, p.Ok) (k : Char) (hk : ¬ Piece.Ok (.esc k)) (rest : List Char) :
    (scan pos (o :: (ps.flatMap Piece.text ++ '\\' :: k :: rest))).res =
      .error ⟨.escapeSeq, pos + utf8Len (o :: (ps.flatMap Piece.text ++ ['\\', k])) - utf8Size k - 1,
              pos + utf8Len (o :: (ps.flatMap Piece.text ++ ['\\', k]))⟩ := by
  have ho1 : isWs o = false := by rcases ho with rfl | rfl <;> rfl
  rw [scan_nonws_head pos o _ ho1, scanTok_quote pos o _ ho, scanStr_bad_escape ps hps k hk rest]

/-- a literal whose body consists of hex digits (4 bits each, most significant first), `x` (one
    set bit), `.` (one clear bit) and ASCII whitespace (ignored) denotes exactly those bits -/
theorem bitstr_literal_denotes (pos : Nat) (cs : List Char) (bits : List Bool) (rest : List Char)
    (h : decodeChars cs = some bits) :
    scan pos ('|' :: (cs ++ '|' :: rest)) = ⟨.ok (.lit (.bitstr bits)), '|' :: (cs ++ ['|']), rest⟩ :=
  scan_bitsLiteral pos cs bits rest h

/-- what each character of a bit-string literal contributes -/
theorem bitstr_char_table :
    bitCharBits 'x' = some [true] ∧ bitCharBits '.' = some [false] ∧ bitCharBits ' ' = some [] ∧
    bitCharBits 'A' = some [true, false, true, false] ∧ bitCharBits 'a' = some [true, false, true, false] ∧
    bitCharBits '7' = some [false, true, true, true] ∧ bitCharBits 'g' = none ∧ bitCharBits '\x0b' = none := by
  decide +kernel

/-- printing ANY bit-string and lexing the text yields exactly that bit-string and consumes
    exactly the print, whatever follows -/
theorem bitstr_print_read (pos : Nat) (bs : List Bool) (rest : List Char) :
    scan pos (printBits bs ++ rest) = ⟨.ok (.lit (.bitstr bs)), printBits bs, rest⟩ :=
  scan_printBits pos bs rest

/-! ### vectors and maps of integers and bit-strings (any nesting) -/

/-- the default print of a value built from in-range integers, bit-strings, vectors and maps
    lexes — without error, nothing lost — to exactly the token list `toks v`: the literal itself
    for an integer / bit-string; `[`, blank, (element, blank)*, `]` for a vector; `{`, blank,
    (value, blank, key, blank)*, `}` for a map -/
theorem value_print_tokens (v : Cell) (h : PV v) :
    ∃ s, printCell {} v = some s ∧ (run s).items.map (·.tok) = toks v ∧ (run s).err = none := by
  obtain ⟨s, hs, hl⟩ := lexes_cell v h
  have := hl.lexes [] (Or.inl rfl)
  rw [List.append_nil] at this
  exact ⟨s, hs, this.run.1, this.run.2⟩

/-- the same in front of any separator: the print of a value is read back as a unit wherever it
    is embedded -/
theorem value_print_tokens_embedded (v : Cell) (h : PV v) :
    ∃ s, printCell {} v = some s ∧ ∀ rest, Sep rest → Lexes (s ++ rest) (toks v) rest := by
  obtain ⟨s, hs, hl⟩ := lexes_cell v h
  exact ⟨s, hs, hl.lexes⟩

/-! ### the recorded finding: non-default format flags are not readable back -/

/-- under `^hex` (base 16, prefix on) −1 prints as the 128-bit two's-complement pattern … -/
theorem hex_print_of_minus_one :
    printInt ⟨16, true, false, false⟩ (-1) = '0' :: 'x' :: List.replicate 32 'f' := by
  decide +kernel

/-- … which the lexer rejects: print → read fails for negative integers under `^hex` -/
theorem hex_print_not_readable (pos : Nat) :
    (scan pos (printInt ⟨16, true, false, false⟩ (-1))).res = .error ⟨.parseInt, pos, pos + 34⟩ := by
  -- 32 digits `f` denote 2^128 − 1, which is no i128
  have h := radix_value pos [] (.inl rfl) 'x' 16 (.inl ⟨rfl, rfl⟩) (List.replicate 32 'f') []
    (by decide +kernel) (.inl rfl) (2 ^ 128 - 1) (by decide +kernel) (by decide +kernel)
  rw [if_neg (by decide), List.nil_append, List.append_nil] at h
  rw [hex_print_of_minus_one, h, show 34 = utf8Len ('0' :: 'x' :: List.replicate 32 'f') by decide +kernel]
  rfl

/-! ### examples: the hypotheses are satisfiable, the quirks are real -/

-- a literal is `String.ofList` of its chars; evaluating `toList` on it instead decodes UTF-8 bytes

example : (run " 12 \"a\\n\" |Fx| 0.5 ".toList).items.map (·.tok) =
    [.ws [' '], .lit (.int 12), .ws [' '], .lit (.str ['a', '\n']), .ws [' '],
     .lit (.bitstr [true, true, true, true, true]), .ws [' '], .realLit "0.5".toList, .ws [' ']] := by
  rw [String.toList_ofList, String.toList_ofList]
  decide +kernel

example : ((run "a\x0bb é\r\n".toList).items.map (·.text)).flatten = "a\x0bb é\r\n".toList := by
  rw [String.toList_ofList]
  decide +kernel

-- a sign after the radix prefix is accepted (`0x-1` is −1): the code's behaviour, kept
example : (scan 0 "0x-1".toList).res = .ok (.lit (.int (-1))) := by
  rw [String.toList_ofList]
  decide +kernel
-- leading-zero hex whose first digit is `b` is the binary prefix
example : (scan 0 "0b1".toList).res = .ok (.lit (.int 1)) := by
  rw [String.toList_ofList]
  decide +kernel
example : (scan 0 "0bf".toList).res = .error ⟨.parseInt, 0, 3⟩ := by
  rw [String.toList_ofList]
  decide +kernel
-- i128 boundaries
example : (scan 0 "-170141183460469231731687303715884105728".toList).res
    = .ok (.lit (.int (-170141183460469231731687303715884105728))) := by
  rw [String.toList_ofList]
  decide +kernel
example : (scan 0 "170141183460469231731687303715884105728".toList).res = .error ⟨.parseInt, 0, 39⟩ := by
  rw [String.toList_ofList]
  decide +kernel
-- `\)` not preceded by whitespace does not close a comment; end of input does not close it either
example : (scan 0 "\\( a\\) b \\) c".toList).res = .ok (.comment "\\( a\\) b \\) ".toList) := by
  rw [String.toList_ofList, String.toList_ofList]
  decide +kernel
example : (scan 0 "\\( a\\)".toList).res = .error ⟨.unterminatedComment, 0, 6⟩ := by
  rw [String.toList_ofList]
  decide +kernel
-- nothing is required after the closing bar of a bit-string, a separator is after a string
example : (run "|ff|abc".toList).items.map (·.tok) = [.lit (.bitstr (List.replicate 8 true)), .word "abc".toList] := by
  rw [String.toList_ofList, String.toList_ofList]
  decide +kernel
example : (scan 0 "\"abc\"x".toList).res = .error ⟨.expectWs, 0, 5⟩ := by
  rw [String.toList_ofList]
  decide +kernel
-- instances of the print/read theorems
example : scan 7 (printInt {} (-42) ++ " x".toList) = ⟨.ok (.lit (.int (-42))), printInt {} (-42), " x".toList⟩ :=
  int_print_read 7 (-42) (by decide) _ (Or.inr ⟨' ', ['x'], rfl, rfl⟩)
example : toks (.vec (.cons (.int 1) (.cons (.bitstr [true]) .nil))) =
    [.word ['['], .ws [' '], .lit (.int 1), .ws [' '], .lit (.bitstr [true]), .ws [' '], .word [']']] := by
  simp [toks, toksElems]
example : PV (.map (.cons (.int 1) (.vec (.cons (.int (-2)) .nil)) .nil)) := by
  simp [PV, PVm, PVs, InRange]
example : (run "{ [ -2 |x| ] 1 }".toList).items.map (·.tok) =
    toks (.map (.cons (.int 1) (.vec (.cons (.int (-2)) (.cons (.bitstr [true]) .nil))) .nil)) := by
  rw [String.toList_ofList]
  simp only [toks, toksPairs, toksElems]; decide +kernel
example : printBits [true, false, true, false, true, true, true, true, false, true, true] = "|AF .xx|".toList := by
  rw [String.toList_ofList]
  decide +kernel

end Xeh.C16
