/-
The VM in sequenced form. Every function of `Model/VM.lean` that uses primitives is "run something, go on if it answered
`.ok`, hand `.err` / `.panic` through with the machine as it then is". `bindR` names that step and the equations below
put `runProg`, `doInit`, `exec` and `step` into that form: a fact about all of them needs one lemma about `bindR` and one
fact per primitive. An opcode is "effects, then one move of the ip" (`execBody` computes the target, `Mach.goto` moves).
Before them, what `topData`, `pushData` and `meterIncrease` answer, case by case.
-/
import XehModel.Model.VM

namespace Xeh.Mach

def bindR {α β : Type} (x : R α) (f : α → Mach → R β) : R β :=
  match x with
  | (.ok a, m) => f a m
  | (.err e, m) => (.err e, m)
  | (.panic s, m) => (.panic s, m)

@[simp] theorem bindR_ok {α β : Type} (a : α) (m : Mach) (f : α → Mach → R β) : bindR (.ok a, m) f = f a m := rfl
@[simp] theorem bindR_err {α β : Type} (e : Xerr) (m : Mach) (f : α → Mach → R β) :
    bindR (.err e, m) f = (.err e, m) := rfl
@[simp] theorem bindR_panic {α β : Type} (s : String) (m : Mach) (f : α → Mach → R β) :
    bindR (.panic s, m) f = (.panic s, m) := rfl

theorem R.cases {α : Type} (x : R α) : (∃ a m, x = (.ok a, m)) ∨ (∃ e m, x = (.err e, m)) ∨ (∃ s m, x = (.panic s, m)) := by
  obtain ⟨o, m⟩ := x
  cases o with
  | ok a => exact .inl ⟨a, m, rfl⟩
  | err e => exact .inr (.inl ⟨e, m, rfl⟩)
  | panic s => exact .inr (.inr ⟨s, m, rfl⟩)

theorem topData_same (m : Mach) : m.topData.2 = m := by
  unfold topData; split <;> (try split) <;> rfl

theorem pushData_cases (m : Mach) (c : Cell) : (∃ e, m.pushData c = (.err e, m)) ∨
    (m.pushData c = (.ok (), { (m.logStep .popData) with ds := c :: m.ds }) ∧
      ∀ S, m.stackLimit = some S → m.ds.length < S) := by
  unfold pushData
  split
  · rename_i lim hlim
    split
    · exact .inl ⟨_, rfl⟩
    · exact .inr ⟨rfl, fun S hS => by rw [hlim] at hS; cases hS; omega⟩
  · rename_i hlim
    exact .inr ⟨rfl, fun S hS => by rw [hlim] at hS; cases hS⟩

theorem meterIncrease_cases (m : Mach) : (∃ e, m.meterIncrease = (.err e, m)) ∨
    (m.meterIncrease = (.ok (), { m with meter := m.meter + 1 }) ∧ ∀ N, m.insnLimit = some N → m.meter < N) := by
  unfold meterIncrease
  split
  · rename_i lim hlim
    split
    · exact .inl ⟨_, rfl⟩
    · exact .inr ⟨rfl, fun N hN => by rw [hlim] at hN; cases hN; omega⟩
  · rename_i hlim
    exact .inr ⟨rfl, fun N hN => by rw [hlim] at hN; cases hN⟩

theorem meterIncrease_of_none {m : Mach} (h : m.insnLimit = none) :
    m.meterIncrease = (.ok (), { m with meter := m.meter + 1 }) := by
  unfold meterIncrease; rw [h]
theorem meterIncrease_of_some {m : Mach} {lim : Nat} (h : m.insnLimit = some lim) :
    m.meterIncrease = if m.meter ≥ lim then (.err (limitMsg "insn" lim), m) else (.ok (), { m with meter := m.meter + 1 }) := by
  unfold meterIncrease; rw [h]

theorem dupData_eq (m : Mach) : m.dupData = bindR m.topData fun c m => m.pushData c := by
  unfold dupData; rcases m.topData with ⟨_ | _ | _, _⟩ <;> rfl

section runProg
variable (m : Mach)

theorem runProg_pop (k : Cell → Prog) : runProg (.pop k) m = bindR m.popData fun c m => runProg (k c) m := by
  rw [runProg]; rcases m.popData with ⟨_ | _ | _, _⟩ <;> rfl
theorem runProg_push (c : Cell) (k : Prog) : runProg (.push c k) m = bindR (m.pushData c) fun _ m => runProg k m := by
  rw [runProg]; rcases m.pushData c with ⟨_ | _ | _, _⟩ <;> rfl
theorem runProg_top (k : Cell → Prog) : runProg (.top k) m = bindR m.topData fun c m => runProg (k c) m := by
  rw [runProg]; rcases m.topData with ⟨_ | _ | _, _⟩ <;> rfl
theorem runProg_dup (k : Prog) : runProg (.dup k) m = bindR m.dupData fun _ m => runProg k m := by
  rw [runProg]; rcases m.dupData with ⟨_ | _ | _, _⟩ <;> rfl
theorem runProg_swap (k : Prog) : runProg (.swap k) m = bindR m.swapData fun _ m => runProg k m := by
  rw [runProg]; rcases m.swapData with ⟨_ | _ | _, _⟩ <;> rfl
theorem runProg_rot (k : Prog) : runProg (.rot k) m = bindR m.rotData fun _ m => runProg k m := by
  rw [runProg]; rcases m.rotData with ⟨_ | _ | _, _⟩ <;> rfl
theorem runProg_over (k : Prog) : runProg (.over k) m = bindR m.overData fun _ m => runProg k m := by
  rw [runProg]; rcases m.overData with ⟨_ | _ | _, _⟩ <;> rfl
theorem runProg_getVar (idx : Nat) (k : Cell → Prog) :
    runProg (.getVar idx k) m = bindR (m.cellRef idx, m) fun c m => runProg (k c) m := by
  rw [runProg]; cases m.cellRef idx <;> rfl
theorem runProg_setVar (idx : Nat) (c : Cell) (k : Prog) :
    runProg (.setVar idx c k) m = bindR (m.swapCellRef idx c) fun _ m => runProg k m := by
  rw [runProg]; rcases m.swapCellRef idx c with ⟨_ | _ | _, _⟩ <;> rfl
theorem runProg_setLoopItems (c : Cell) (k : Prog) :
    runProg (.setLoopItems c k) m = bindR (m.setLoopItems c) fun _ m => runProg k m := by
  rw [runProg]; rcases m.setLoopItems c with ⟨_ | _ | _, _⟩ <;> rfl
theorem runProg_popSpecial (k : Option Nat → Prog) :
    runProg (.popSpecial k) m = runProg (k m.popSpecial.1) m.popSpecial.2 := by
  rw [runProg]

end runProg

theorem doInit_eq (m : Mach) : m.doInit =
    bindR m.popData fun start m => bindR m.popData fun limit m =>
    bindR (start.toIsize, m) fun s m => bindR (limit.toIsize, m) fun l m =>
      (.ok { items := .nil, start := s, stop := l }, m) := by
  unfold doInit
  rcases m.popData with ⟨a | _ | _, m1⟩ <;> try rfl
  simp only [bindR_ok]
  rcases m1.popData with ⟨b | _ | _, _⟩ <;> try rfl
  simp only [bindR_ok]
  cases a.toIsize <;> try rfl
  cases b.toIsize <;> rfl

inductive Dest where
  | next
  | to (n : Nat)

def goto (m : Mach) : Dest → Mach
  | .next => m.nextIp
  | .to n => m.setIp n

/-- `InitLocal`'s write to the frame on top of the return stack -/
def initLocalTop (m : Mach) (idx : Nat) (v : Cell) : R Unit :=
  match m.rs with
  | f :: rest =>
    if m.rs.length > m.ctx.rsLen then
      (.ok (), ({ m with rs := { f with locals := setLocal f.locals idx v } :: rest } : Mach).logStep (.restoreLocals f.locals))
    else (.err .returnStackUnderflow, m)
  | [] => (.err .returnStackUnderflow, m)

def execBody (np : String → Option Prog) (m : Mach) (ip : Nat) : Op → R Dest
  | .nop => (.ok .next, m)
  | .jump rel => (.ok (.to (calcJump ip rel)), m)
  | .jumpIf rel => bindR m.popData fun c m => bindR (c.condTrue, m) fun b m =>
      (.ok (if b then .to (calcJump ip rel) else .next), m)
  | .jumpIfNot rel => bindR m.popData fun c m => bindR (c.condTrue, m) fun b m =>
      (.ok (if b then .next else .to (calcJump ip rel)), m)
  | .caseOf rel => bindR m.popData fun a m => bindR m.topData fun b m =>
      if Cell.beq a b then bindR m.popData fun _ m => (.ok .next, m) else (.ok (.to (calcJump ip rel)), m)
  | .call addr => (.ok (.to addr), m.pushReturn { fnAddr := addr, returnTo := ip + 1, locals := [] })
  | .native name =>
    match np name with
    | some p => bindR (runProg p m) fun _ m => (.ok .next, m)
    | none => (.panic s!"model: native word {name} is outside the model", m)
  | .ret => bindR m.popReturn fun f m => (.ok (.to f.returnTo), m)
  | .resolve _ => (.panic "model: resolve is handled by step", m)
  | .loadStr s => bindR (m.pushData (.str s)) fun _ m => (.ok .next, m)
  | .loadF64 x => bindR (m.pushData (.real x)) fun _ m => (.ok .next, m)
  | .loadI64 x => bindR (m.pushData (.int x)) fun _ m => (.ok .next, m)
  | .loadNil => bindR (m.pushData .nil) fun _ m => (.ok .next, m)
  | .loadCell c => bindR (m.pushData c) fun _ m => (.ok .next, m)
  | .load idx => bindR (m.cellRef idx, m) fun c m => bindR (m.pushData c) fun _ m => (.ok .next, m)
  | .store idx => bindR m.popData fun v m => bindR (m.swapCellRef idx v) fun _ m => (.ok .next, m)
  | .initLocal idx => bindR m.popData fun v m => bindR (m.initLocalTop idx v) fun _ m => (.ok .next, m)
  | .loadLocal i => bindR (m.topFrame, m) fun f m =>
      match f.locals[i]? with
      | some v => bindR (m.pushData v) fun _ m => (.ok .next, m)
      | none => (.err (localOutOfBounds i), m)
  | .doOp rel => bindR m.doInit fun l m =>
      if l.start < l.stop then (.ok .next, m.pushLoop l) else (.ok (.to (calcJump ip rel)), m)
  | .breakOp rel => bindR m.popLoop fun _ m => (.ok (.to (calcJump ip rel)), m)
  | .loopOp rel => bindR m.loopNext fun again m =>
      if again then (.ok (.to (calcJump ip rel)), m) else bindR m.popLoop fun _ m => (.ok .next, m)

theorem exec_eq (np : String → Option Prog) (m : Mach) (ip : Nat) (op : Op) :
    exec np m ip op = bindR (execBody np m ip op) fun d m => (.ok (), m.goto d) := by
  cases op <;> simp only [exec, execBody, bindR_ok, bindR_panic, goto]
  case jumpIf | jumpIfNot =>
    rcases m.popData with ⟨a | _ | _, _⟩ <;> try rfl
    simp only [bindR_ok]
    rcases a.condTrue with (_ | _) | _ | _ <;> rfl
  case caseOf =>
    rcases m.popData with ⟨a | _ | _, m1⟩ <;> try rfl
    simp only [bindR_ok]
    rcases m1.topData with ⟨b | _ | _, m2⟩ <;> try rfl
    simp only [bindR_ok]
    split <;> try rfl
    rcases m2.popData with ⟨_ | _ | _, _⟩ <;> rfl
  case native name =>
    cases np name <;> try rfl
    rename_i p
    dsimp only
    rcases runProg p m with ⟨_ | _ | _, _⟩ <;> rfl
  case ret => rcases m.popReturn with ⟨_ | _ | _, _⟩ <;> rfl
  case loadStr | loadF64 | loadI64 | loadNil | loadCell => rcases m.pushData _ with ⟨_ | _ | _, _⟩ <;> rfl
  case load idx =>
    cases m.cellRef idx <;> try rfl
    rename_i c
    simp only [bindR_ok]
    rcases m.pushData c with ⟨_ | _ | _, _⟩ <;> rfl
  case store idx =>
    rcases m.popData with ⟨v | _ | _, m1⟩ <;> try rfl
    simp only [bindR_ok]
    rcases m1.swapCellRef idx v with ⟨_ | _ | _, _⟩ <;> rfl
  case initLocal idx =>
    rcases m.popData with ⟨v | _ | _, m1⟩ <;> try rfl
    simp only [bindR_ok, initLocalTop]
    cases m1.rs <;> try rfl
    dsimp only
    split <;> rfl
  case loadLocal i =>
    cases m.topFrame <;> try rfl
    rename_i f
    simp only [bindR_ok]
    cases f.locals[i]? <;> try rfl
    rename_i v
    dsimp only
    rcases m.pushData v with ⟨_ | _ | _, _⟩ <;> rfl
  case doOp rel =>
    rcases m.doInit with ⟨l | _ | _, _⟩ <;> try rfl
    simp only [bindR_ok]
    split <;> rfl
  case breakOp rel => rcases m.popLoop with ⟨_ | _ | _, _⟩ <;> rfl
  case loopOp rel =>
    rcases m.loopNext with ⟨(_ | _) | _ | _, m1⟩ <;> try rfl
    simp only [bindR_ok]
    rcases m1.popLoop with ⟨_ | _ | _, _⟩ <;> rfl

/-- what `step` does before it executes an opcode; a `Resolve` is counted twice -/
def fetch (m : Mach) : R Op :=
  let ip := m.ctx.ip
  bindR m.meterIncrease fun _ m =>
    match m.code[ip]? with
    | none => (.panic "code[ip] out of bounds", m)
    | some (.resolve name) =>
      bindR (m.resolveOp name, m) fun op m => bindR (m.patchCode ip op).meterIncrease fun _ m => (.ok op, m)
    | some op => (.ok op, m)

theorem step_eq (np : String → Option Prog) (m : Mach) :
    step np m = bindR m.fetch fun op m' => exec np m' m.ctx.ip op := by
  unfold step fetch
  rcases m.meterIncrease with ⟨_ | _ | _, m1⟩ <;> try rfl
  simp only [bindR_ok]
  cases m1.code[m.ctx.ip]? <;> try rfl
  rename_i op
  cases op <;> try rfl
  rename_i name
  dsimp only
  cases m1.resolveOp name <;> try rfl
  rename_i op
  simp only [bindR_ok]
  rcases (m1.patchCode m.ctx.ip op).meterIncrease with ⟨_ | _ | _, _⟩ <;> rfl

end Xeh.Mach
