/-
`run()` and `abort_run` respect the twin relation `GSt`, in which the last-token marker is forgotten too (a REPL line —
`compile`, `run`, `abort_run` when the run failed — is put together from these and `gs_buildSource` in Props/C10.lean).
-/
import XehModel.Proofs.SessionGhost

namespace Xeh.Session
open Xeh Xeh.Mach Xeh.Compile Xeh.Session.Sess

variable {pre : List Char}

theorem gst_runS {x z : Sess} (h : GSt pre x z) (fuel : Nat) : SRes.Rel (GSt pre) (GSt pre) (x.runS fuel) (z.runS fuel) :=
  ghost_runS x z fuel h.1 (GS.limit (s := { x with lastTok := 0 }) h) (fun _ _ hab hl => gs_withM h hab hl)

theorem gst_abortRun {x z : Sess} (h : GSt pre x z) : GSt pre x.abortRun z.abortRun := gs_abortRun h

end Xeh.Session
