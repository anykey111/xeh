/-
Print → token list of vectors and maps: a compositional "lexes to" relation, the single-character tokens `[ ] { }` and
blanks, and the token list of the print of any nesting of vectors/maps over integers and bit-strings.
-/
import XehModel.Proofs.LexNum
import XehModel.Proofs.LexBits

namespace Xeh.Lex
open Xeh.Print

inductive Lexes : List Char → List Tok → List Char → Prop
  | nil (r : List Char) : Lexes r [] r
  | cons {inp : List Char} {t : Tok} {taken r1 : List Char} {ts : List Tok} {r : List Char}
      (h : ∀ pos, scan pos inp = ⟨.ok t, taken, r1⟩) (hne : t ≠ .eof) (tl : Lexes r1 ts r) :
      Lexes inp (t :: ts) r

theorem Lexes.append {a b c : List Char} {ts us : List Tok} (h1 : Lexes a ts b) (h2 : Lexes b us c) :
    Lexes a (ts ++ us) c := by
  induction h1 with
  | nil r => simpa using h2
  | cons h hne _ ih => exact Lexes.cons h hne (ih h2)

theorem Lexes.single {inp : List Char} {t : Tok} {taken r : List Char}
    (h : ∀ pos, scan pos inp = ⟨.ok t, taken, r⟩) (hne : t ≠ .eof) : Lexes inp [t] r :=
  Lexes.cons h hne (Lexes.nil r)

theorem Lexes.runFuel {inp : List Char} {ts : List Tok} (h : Lexes inp ts []) (n : Nat) (lx : Lex)
    (h1 : lx.rest = inp) (h2 : inp.length < n) :
    (runFuel n lx).items.map (·.tok) = ts ∧ (runFuel n lx).err = none := by
  generalize hr : ([] : List Char) = r at h
  induction h generalizing n lx with
  | nil r =>
    subst hr
    cases n with
    | zero => omega
    | succ n =>
      have : lx.next.1 = .ok .eof := by simp [Lex.next, h1, scan, spanP]
      rw [runFuel_succ_eof n lx lx.next.2 (by rw [← this])]
      exact ⟨rfl, rfl⟩
  | @cons inp t taken r1 ts r hs hne _ ih =>
    cases n with
    | zero => omega
    | succ n =>
      have hnext : lx.next = (.ok t, ⟨r1, lx.pos + utf8Len taken, lx.pos, taken⟩) := by
        simp only [Lex.next, h1, hs lx.pos]
      have hlen := (next_consumes hnext (by simpa using hne)).2
      rw [h1] at hlen
      obtain ⟨e3, e4⟩ := ih n ⟨r1, lx.pos + utf8Len taken, lx.pos, taken⟩ rfl (by simp only at hlen; omega) hr
      rw [runFuel_succ_ok n lx _ t hnext hne]
      exact ⟨by simp [e3], e4⟩

theorem Lexes.run {text : List Char} {ts : List Tok} (h : Lexes text ts []) :
    (run text).items.map (·.tok) = ts ∧ (run text).err = none :=
  h.runFuel _ (Lex.new text) rfl (Nat.lt_succ_self _)

def NonWsHead (s : List Char) : Prop := ∃ c r, s = c :: r ∧ isWs c = false

theorem NonWsHead.append {s : List Char} (h : NonWsHead s) (t : List Char) : NonWsHead (s ++ t) := by
  obtain ⟨c, r, rfl, hc⟩ := h
  exact ⟨c, r ++ t, rfl, hc⟩

theorem sep_of_blank (r : List Char) : Sep (' ' :: r) := Or.inr ⟨' ', r, rfl, by decide⟩

theorem lexes_blank {rest : List Char} (h : NonWsHead rest) : Lexes (' ' :: rest) [.ws [' ']] rest := by
  obtain ⟨c, r, rfl, hc⟩ := h
  refine Lexes.single (taken := [' ']) (fun pos => ?_) (by simp)
  simp [scan, spanP, show isWs ' ' = true from rfl, hc]

def IsBracket (c : Char) : Prop := c = '[' ∨ c = ']' ∨ c = '{' ∨ c = '}'

theorem IsBracket.nonWsHead {c : Char} (hc : IsBracket c) (r : List Char) : NonWsHead (c :: r) :=
  ⟨c, r, rfl, by rcases hc with rfl | rfl | rfl | rfl <;> rfl⟩

theorem scanWord_word (pos : Nat) {c : Char} {r body rest : List Char} (hd : isDigit c = false)
    (hm : c ≠ '-') (hp : c ≠ '+') (hb : c ≠ '\\') (h3 : spanP (fun c => !isWs c) r = (body, rest)) :
    scanWord pos c r = ⟨.ok (.word (c :: body)), c :: body, rest⟩ := by
  simp [scanWord, numHead, radixPrefix, h3, hd, hm, hp, hb]

theorem lexes_bracket {c : Char} (hc : IsBracket c) {rest : List Char} (hr : Sep rest) :
    Lexes (c :: rest) [.word [c]] rest := by
  refine Lexes.single (taken := [c]) (fun pos => ?_) (by simp)
  have hsp : spanP (fun c => !isWs c) rest = ([], rest) := hr.span (body := []) (fun _ h => nomatch h)
  rcases hc with rfl | rfl | rfl | rfl <;>
    rw [scan_word_head pos _ rfl (by decide) (by decide) (by decide),
      scanWord_word pos rfl (by decide) (by decide) (by decide) hsp]

/-- `s` is one printed element: it starts with a non-blank and lexes to `ts` when a separator
    follows -/
structure LexUnit (s : List Char) (ts : List Tok) : Prop where
  head : NonWsHead s
  lexes : ∀ rest, Sep rest → Lexes (s ++ rest) ts rest

/-- `s` is a body `e₁␠e₂␠…␠` (empty, or ending in a blank): it lexes to `ts` when something
    non-blank follows -/
structure LexSeq (s : List Char) (ts : List Tok) : Prop where
  head : s ≠ [] → NonWsHead s
  lexes : ∀ tail, NonWsHead tail → Lexes (s ++ tail) ts tail

theorem LexSeq.nil : LexSeq [] [] := ⟨fun h => absurd rfl h, fun tail _ => Lexes.nil tail⟩

theorem LexSeq.nonWs {s : List Char} {ts : List Tok} (h : LexSeq s ts) {tail : List Char}
    (ht : NonWsHead tail) : NonWsHead (s ++ tail) := by
  cases s with
  | nil => exact ht
  | cons c t => exact (h.head (by simp)).append tail

theorem LexUnit.cons {sh st : List Char} {th tt : List Tok} (h : LexUnit sh th) (t : LexSeq st tt) :
    LexSeq (sh ++ ' ' :: st) (th ++ .ws [' '] :: tt) := by
  refine ⟨fun _ => h.head.append _, fun tail ht => ?_⟩
  have := (h.lexes _ (sep_of_blank (st ++ tail))).append
    ((lexes_blank (t.nonWs ht)).append (t.lexes tail ht))
  simpa using this

theorem LexSeq.bracket {body : List Char} {ts : List Tok} (h : LexSeq body ts) {o c : Char}
    (ho : IsBracket o) (hc : IsBracket c) :
    LexUnit (o :: ' ' :: body ++ [c]) (.word [o] :: .ws [' '] :: (ts ++ [.word [c]])) := by
  refine ⟨ho.nonWsHead _, fun rest hr => ?_⟩
  have hn := hc.nonWsHead rest
  have := (lexes_bracket ho (sep_of_blank (body ++ c :: rest))).append
    ((lexes_blank (h.nonWs hn)).append ((h.lexes _ hn).append (lexes_bracket hc hr)))
  simpa using this

mutual
/-- the values whose default print the round trip covers: any nesting of vectors and maps over
    in-range integers and bit-strings -/
def PV : Cell → Prop
  | .int i => InRange i
  | .bitstr _ => True
  | .vec xs => PVs xs
  | .map kv => PVm kv
  | _ => False
def PVs : CellList → Prop
  | .nil => True
  | .cons h t => PV h ∧ PVs t
def PVm : PairList → Prop
  | .nil => True
  | .cons k v t => PV k ∧ PV v ∧ PVm t
end

mutual
/-- the token list the default print of a value lexes to, blanks included -/
def toks : Cell → List Tok
  | .vec xs => .word ['['] :: .ws [' '] :: (toksElems xs ++ [.word [']']])
  | .map kv => .word ['{'] :: .ws [' '] :: (toksPairs kv ++ [.word ['}']])
  | c => [.lit c]
def toksElems : CellList → List Tok
  | .nil => []
  | .cons h t => toks h ++ .ws [' '] :: toksElems t
def toksPairs : PairList → List Tok
  | .nil => []
  | .cons k v t => toks v ++ .ws [' '] :: (toks k ++ .ws [' '] :: toksPairs t)
end

theorem printInt_nonWsHead (i : Int) : NonWsHead (printInt {} i) := by
  rw [printInt_default]
  split
  · exact ⟨'-', _, rfl, rfl⟩
  · cases h : natDigits 10 false i.natAbs with
    | nil => exact absurd h (natDigits_ne_nil _ _ _)
    | cons c t => exact ⟨c, t, rfl, isDigit_notWs (natDigits_isDigit i.natAbs c (by simp [h]))⟩

mutual
theorem lexes_cell : (c : Cell) → PV c → ∃ s, printCell {} c = some s ∧ LexUnit s (toks c)
  | .int i, h => ⟨printInt {} i, by simp [printCell], printInt_nonWsHead i, fun rest hr =>
      Lexes.single (fun pos => scan_printDec pos i h rest hr) (by simp)⟩
  | .bitstr b, _ => ⟨printBits b, by simp [printCell], ⟨'|', _, rfl, rfl⟩, fun rest _ =>
      Lexes.single (fun pos => scan_printBits pos b rest) (by simp)⟩
  | .vec xs, h => by
    obtain ⟨body, hb, hl⟩ := lexes_elemsSeq xs (by simpa [PV] using h)
    exact ⟨_, by simp [printCell, hb], hl.bracket (.inl rfl) (.inr (.inl rfl))⟩
  | .map kv, h => by
    obtain ⟨body, hb, hl⟩ := lexes_pairsSeq kv (by simpa [PV] using h)
    exact ⟨_, by simp [printCell, hb], hl.bracket (.inr (.inr (.inl rfl))) (.inr (.inr (.inr rfl)))⟩
  | .nil, h | .flag _, h | .real _, h | .str _, h | .fn _ _, h | .any _, h | .tagged _ _, h => by
    simp [PV] at h
theorem lexes_elemsSeq : (xs : CellList) → PVs xs →
    ∃ s, printElems {} xs = some s ∧ LexSeq s (toksElems xs)
  | .nil, _ => ⟨[], rfl, .nil⟩
  | .cons h t, hp => by
    have hp' : PV h ∧ PVs t := by simpa [PVs] using hp
    obtain ⟨sh, e1, l1⟩ := lexes_cell h hp'.1
    obtain ⟨st, e2, l2⟩ := lexes_elemsSeq t hp'.2
    exact ⟨sh ++ ' ' :: st, by simp [printElems, e1, e2], l1.cons l2⟩
theorem lexes_pairsSeq : (kv : PairList) → PVm kv →
    ∃ s, printPairs {} kv = some s ∧ LexSeq s (toksPairs kv)
  | .nil, _ => ⟨[], rfl, .nil⟩
  | .cons k v t, hp => by
    have hp' : PV k ∧ PV v ∧ PVm t := by simpa [PVm] using hp
    obtain ⟨sv, e1, l1⟩ := lexes_cell v hp'.2.1
    obtain ⟨sk, e2, l2⟩ := lexes_cell k hp'.1
    obtain ⟨st, e3, l3⟩ := lexes_pairsSeq t hp'.2.2
    exact ⟨sv ++ ' ' :: (sk ++ ' ' :: st), by simp [printPairs, e1, e2, e3], l1.cons (l2.cons l3)⟩
end

theorem lexes_elems : (xs : CellList) → PVs xs →
    ∃ s, printElems {} xs = some s ∧ ∀ tail, NonWsHead tail → Lexes (s ++ tail) (toksElems xs) tail :=
  fun xs h => (lexes_elemsSeq xs h).imp fun _ h => ⟨h.1, h.2.lexes⟩

theorem lexes_elems_head : (xs : CellList) → PVs xs → ∀ s, printElems {} xs = some s → s ≠ [] → NonWsHead s := by
  intro xs h s hs
  obtain ⟨s', hs', l⟩ := lexes_elemsSeq xs h
  cases hs.symm.trans hs'
  exact l.head

theorem lexes_pairs : (kv : PairList) → PVm kv →
    ∃ s, printPairs {} kv = some s ∧ ∀ tail, NonWsHead tail → Lexes (s ++ tail) (toksPairs kv) tail :=
  fun kv h => (lexes_pairsSeq kv h).imp fun _ h => ⟨h.1, h.2.lexes⟩

theorem lexes_pairs_head : (kv : PairList) → PVm kv → ∀ s, printPairs {} kv = some s → s ≠ [] → NonWsHead s := by
  intro kv h s hs
  obtain ⟨s', hs', l⟩ := lexes_pairsSeq kv h
  cases hs.symm.trans hs'
  exact l.head

end Xeh.Lex
