/-
Bit-string literals: the printer's chunks (two hex digits per 8 bits, a final partial chunk as hex digit + `x`/`.`
marks, chunks separated by a blank) against the reader.
-/
import XehModel.Model.Print
import XehModel.Proofs.LexTiling

namespace Xeh.Lex
open Xeh.Print

/-- `none`: the character is not allowed, or closes the literal -/
def bitCharBits (c : Char) : Option (List Bool) :=
  match toDigit 16 c with
  | some x => some (nibbleBits x)
  | none =>
    if isWs c then some []
    else if c == '.' then some [false]
    else if c == 'x' then some [true]
    else none

def decodeChars : List Char → Option (List Bool)
  | [] => some []
  | c :: r =>
    match bitCharBits c, decodeChars r with
    | some b, some bs => some (b ++ bs)
    | _, _ => none

theorem decodeChars_append (a b : List Char) (x y : List Bool)
    (ha : decodeChars a = some x) (hb : decodeChars b = some y) : decodeChars (a ++ b) = some (x ++ y) := by
  induction a generalizing x with
  | nil => simp [decodeChars] at ha; subst ha; simpa using hb
  | cons c t ih =>
    simp only [decodeChars, List.cons_append] at ha ⊢
    cases hc : bitCharBits c with
    | none => simp [hc] at ha
    | some bc =>
      cases ht : decodeChars t with
      | none => simp [hc, ht] at ha
      | some bt =>
        simp [hc, ht] at ha
        subst ha
        simp [ih bt ht, List.append_assoc]

theorem BitsEnd.prepend_nil (e : BitsEnd) : e.prepend [] = e := by
  cases e <;> simp [BitsEnd.prepend]

theorem BitsEnd.prepend_prepend (e : BitsEnd) (a b : List Bool) :
    (e.prepend b).prepend a = e.prepend (a ++ b) := by
  cases e <;> simp [BitsEnd.prepend]

theorem scanBits_cons {c : Char} {b : List Bool} (h : bitCharBits c = some b) (r : List Char) :
    scanBits (c :: r) = ((scanBits r).1.prepend b, c :: (scanBits r).2.1, (scanBits r).2.2) := by
  unfold bitCharBits at h
  rw [scanBits]
  split at h
  · rename_i x hx
    cases h; rw [hx]
  · rename_i hx
    rw [hx]
    split at h
    · rename_i hw
      cases h; simp only [hw, if_true, BitsEnd.prepend_nil]
    · rename_i hw
      split at h
      · rename_i hdot
        cases h; simp only [hw, hdot, if_true, Bool.false_eq_true, if_false]
      · rename_i hdot
        split at h
        · rename_i hxx
          cases h; simp only [hw, hdot, hxx, if_true, Bool.false_eq_true, if_false]
        · cases h

theorem scanBits_decode (cs : List Char) (bits : List Bool) (tail : List Char)
    (h : decodeChars cs = some bits) :
    scanBits (cs ++ tail) =
      ((scanBits tail).1.prepend bits, cs ++ (scanBits tail).2.1, (scanBits tail).2.2) := by
  induction cs generalizing bits with
  | nil => cases h; rw [BitsEnd.prepend_nil]; rfl
  | cons c t ih =>
    simp only [decodeChars] at h
    cases hc : bitCharBits c with
    | none => simp [hc] at h
    | some bc =>
      cases ht : decodeChars t with
      | none => simp [hc, ht] at h
      | some bt =>
        simp only [hc, ht, Option.some.injEq] at h
        subst h
        rw [List.cons_append, scanBits_cons hc, ih bt ht, BitsEnd.prepend_prepend]
        rfl

theorem bitsVal_lt (l : List Bool) : bitsVal l < 2 ^ l.length := by
  induction l with
  | nil => simp [bitsVal]
  | cons b r ih => simp only [bitsVal, List.length_cons, Nat.pow_succ]; split <;> omega

theorem testBits_bitsVal (c : List Bool) : (List.range c.length).reverse.map (bitsVal c).testBit = c := by
  induction c with
  | nil => rfl
  | cons b r ih =>
    have hlt := bitsVal_lt r
    simp only [List.length_cons, List.range_succ, List.reverse_append, List.reverse_cons, List.reverse_nil,
      List.nil_append, List.cons_append, List.map_cons, bitsVal]
    congr 1
    · cases b
      · simpa using Nat.testBit_lt_two_pow hlt
      · simp [Nat.testBit_two_pow_add_eq, Nat.testBit_lt_two_pow hlt]
    · refine Eq.trans (List.map_congr_left ?_) ih
      intro j hj
      have : j < r.length := by simpa using hj
      cases b
      · simp
      · simp [Nat.testBit_two_pow_add_gt this]

theorem decode_marks (l : List Bool) : decodeChars (l.map fun b => if b then 'x' else '.') = some l := by
  induction l with
  | nil => rfl
  | cons b r ih =>
    have : bitCharBits (if b then 'x' else '.') = some [b] := by cases b <;> decide +kernel
    simp [decodeChars, this, ih]


theorem decodeChars_hex {d : Nat} (hd : d < 16) (t : List Char) :
    decodeChars (digitChar true d :: t) = (decodeChars t).map (nibbleBits d ++ ·) := by
  have : ∀ d : Fin 16, bitCharBits (digitChar true d.val) = some (nibbleBits d.val) := by decide +kernel
  simp only [decodeChars, this ⟨d, hd⟩]
  cases decodeChars t <;> rfl

theorem decode_printChunk_lo (x n : Nat) (h4 : n ≤ 4) :
    decodeChars (printChunk x n) = some ((List.range n).reverse.map x.testBit) := by
  by_cases h : n = 4
  · subst h
    have h15 : ∀ j, j < 4 → (x &&& 15).testBit j = x.testBit j := fun j hj => by
      rw [show 15 = 2 ^ 4 - 1 from rfl, Nat.testBit_and, Nat.testBit_two_pow_sub_one]; simp [hj]
    simp [printChunk, decodeChars_hex (Nat.lt_succ_of_le (Nat.and_le_right (n := x) (m := 15))), decodeChars,
      nibbleBits, List.range, List.range.loop, h15]
  · have := decode_marks ((List.range n).reverse.map x.testBit)
    rw [List.map_map] at this
    simpa [printChunk, show ¬ n > 4 by omega, h, Function.comp_def] using this

theorem printChunk_hi (x n : Nat) (h4 : 4 < n) (h8 : n ≤ 8) :
    printChunk x n = digitChar true (x >>> (n - 4)) :: printChunk x (n - 4) := by
  simp [printChunk, h4, show ¬ n - 4 > 4 by omega]

theorem decode_printChunk (x n : Nat) (h8 : n ≤ 8) (hx : x < 2 ^ n) :
    decodeChars (printChunk x n) = some ((List.range n).reverse.map x.testBit) := by
  by_cases h4 : n ≤ 4
  · exact decode_printChunk_lo x n h4
  · obtain ⟨k, rfl⟩ : ∃ k, n = k + 4 := ⟨n - 4, by omega⟩
    have hd : x >>> k < 16 := by
      rw [Nat.shiftRight_eq_div_pow]; exact Nat.div_lt_of_lt_mul (by rwa [Nat.pow_add] at hx)
    rw [printChunk_hi x _ (by omega) h8, decodeChars_hex (by simpa using hd), Nat.add_sub_cancel,
      decode_printChunk_lo x k (by omega)]
    simp [List.range_succ, nibbleBits, Nat.testBit_shiftRight]

theorem decodeChars_printChunk (c : List Bool) (h8 : c.length ≤ 8) :
    decodeChars (printChunk (bitsVal c) c.length) = some c := by
  rw [decode_printChunk _ _ h8 (bitsVal_lt c), testBits_bitsVal]

theorem chunks8_flatten (bs : List Bool) : (chunks8 bs).flatten = bs := by
  fun_induction chunks8 bs with
  | case1 => rfl
  | case2 bs h ih => simp [ih, List.take_append_drop]

theorem chunks8_len (bs : List Bool) : ∀ c ∈ chunks8 bs, c.length ≤ 8 := by
  fun_induction chunks8 bs with
  | case1 => simp
  | case2 bs h ih =>
    intro c hc
    simp only [List.mem_cons] at hc
    rcases hc with rfl | hc
    · simp only [List.length_take]; omega
    · exact ih c hc

theorem decode_joinSp (cs : List (List Bool)) (h : ∀ c ∈ cs, c.length ≤ 8) :
    decodeChars (joinSp (cs.map fun c => printChunk (bitsVal c) c.length)) = some cs.flatten := by
  induction cs with
  | nil => simp [joinSp, decodeChars]
  | cons a t ih =>
    have ha := decodeChars_printChunk a (h a (by simp))
    have iht := ih (fun c hc => h c (by simp [hc]))
    cases t with
    | nil => simpa [joinSp] using ha
    | cons b t' =>
      simp only [List.map_cons, joinSp] at iht ⊢
      have hsp : decodeChars (' ' :: joinSp (printChunk (bitsVal b) b.length :: List.map (fun c => printChunk (bitsVal c) c.length) t'))
          = some (b :: t').flatten := by
        have hb : bitCharBits ' ' = some [] := by decide +kernel
        simp only [decodeChars, hb, iht]
        simp
      have := decodeChars_append _ _ _ _ ha hsp
      simpa using this

theorem scanBits_bar (rest : List Char) : scanBits ('|' :: rest) = (.closed [], ['|'], rest) := by
  rw [scanBits, show toDigit 16 '|' = none by decide +kernel]
  rfl

theorem scan_bitsLiteral (pos : Nat) (cs : List Char) (bits : List Bool) (rest : List Char)
    (h : decodeChars cs = some bits) :
    scan pos ('|' :: (cs ++ '|' :: rest)) = ⟨.ok (.lit (.bitstr bits)), '|' :: (cs ++ ['|']), rest⟩ := by
  rw [scan_nonws_head pos '|' _ (by decide), scanTok_bar, scanBits_decode cs bits _ h, scanBits_bar]
  simp [BitsEnd.prepend]

theorem scan_printBits (pos : Nat) (bs : List Bool) (rest : List Char) :
    scan pos (printBits bs ++ rest) = ⟨.ok (.lit (.bitstr bs)), printBits bs, rest⟩ := by
  have hd := decode_joinSp (chunks8 bs) (chunks8_len bs)
  rw [chunks8_flatten] at hd
  have := scan_bitsLiteral pos _ bs rest hd
  simpa [printBits] using this

end Xeh.Lex
