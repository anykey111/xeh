/-
The parsing cursor: the notions the statements of Props/C06 use (`Same`, `Inv`, `slice`, `POp.arity`, `ReadSpec`); the
reads in normal form; `Effect` / `step_effect`, the one case analysis over the words of `step`, which Props/C06, Props/C07,
CursorLifo and CursorLimit take apart for atomic failure, the invariant, byte order, stash and stack limit; what a
successful pop, push or read has done.
-/
import XehModel.Model.Cursor

namespace Xeh.Cur
open Xeh

/-- input, base, offset and stash of `s'` are those of `s`: the cursor has not moved (what a failing word guarantees) -/
def Same (s s' : CurState) : Prop :=
  s'.input = s.input ∧ s'.base = s.base ∧ s'.pos = s.pos ∧ s'.stash = s.stash

theorem Same.refl (s : CurState) : Same s s := ⟨rfl, rfl, rfl, rfl⟩

theorem Same.trans {a b c : CurState} (h : Same a b) (h' : Same b c) : Same a c :=
  ⟨h'.1.trans h.1, h'.2.1.trans h.2.1, h'.2.2.1.trans h.2.2.1, h'.2.2.2.trans h.2.2.2⟩

/-- number of cells a word takes from the stack (at most) -/
def POp.arity : POp → Nat
  | .bits | .bytes | .uint | .int | .float | .magic | .seek | .find | .openBitstr _ => 1
  | .packInt _ _ | .packF _ _ | .toBitstr | .emit => 1
  | .packIntN | .packFN | .bitstrAppend => 2
  | _ => 0

/-- the offset lies inside the input, for the open input and for every suspended one on the stash -/
def Inv (s : CurState) : Prop :=
  s.pos ≤ s.input.length ∧ ∀ f ∈ s.stash, f.pos ≤ f.bits.length

instance (s : CurState) : Decidable (Inv s) := by unfold Inv; infer_instance

/-- the `n` bits behind the offset of the open input -/
def slice (s : CurState) (n : Nat) : List Bool := (s.input.drop s.pos).take n

theorem peek_ok {s : CurState} {n : Nat} {bs} (h : peek s n = .ok bs) :
    s.pos + n ≤ s.input.length ∧ bs = slice s n := by
  unfold peek at h
  split at h
  · simp at h
  · split at h
    · simp at h; exact ⟨by assumption, h.symm⟩
    · simp at h

theorem moveAbs_fit (s : CurState) (n : Nat) (h : s.pos + n ≤ s.input.length) :
    moveAbs s (s.base + s.pos + n) = ({ s with pos := s.pos + n }, .ok ()) := by
  unfold moveAbs moveThen
  rw [if_pos ⟨by omega, by omega⟩]
  congr 2
  omega

theorem lift_congr {α : Type} {s : CurState} {o : Outcome α} {K K' : α → Res} (h : ∀ a, o = .ok a → K a = K' a) :
    lift s o K = lift s o K' := by
  cases o with
  | ok a => exact h a rfl
  | err e => rfl
  | panic p => rfl

/-- `push_and_advance` over bits that are there: only the push can be refused -/
theorem pushThen_move (s : CurState) (c : Cell) (n : Nat) (h : s.pos + n ≤ s.input.length) :
    (pushThen s c fun s1 => moveAbs s1 (s.base + s.pos + n)) =
      if full s then (s, .err (limErr s)) else ({ s with pos := s.pos + n, ds := c :: s.ds }, .ok ()) := by
  unfold pushThen
  split
  · rfl
  · exact moveAbs_fit { s with ds := c :: s.ds } n h

theorem readWith_eq (s : CurState) (n : Nat) (conv : List Bool → Outcome Cell) :
    readWith s n conv =
      lift s (peek s n) fun bs => lift s (conv bs) fun c =>
        if full s then (s, .err (limErr s)) else ({ s with pos := s.pos + n, ds := c :: s.ds }, .ok ()) :=
  lift_congr fun _ hp => lift_congr fun c _ => pushThen_move s c n (peek_ok hp).1

theorem scanNul_le : ∀ (f : Nat) (bs : List Bool), scanNul f bs ≤ bs.length
  | 0, _ => by simp [scanNul]
  | f+1, bs => by
    unfold scanNul
    split
    · omega
    · split
      · omega
      · have := scanNul_le f (bs.drop 8)
        simp only [List.length_drop] at this
        omega

theorem rest_ok {s : CurState} {r : List Bool} (h : rest s = .ok r) :
    s.pos ≤ s.input.length ∧ r = s.input.drop s.pos := by
  unfold rest at h
  split at h
  · exact ⟨by assumption, (Outcome.ok.inj h).symm⟩
  · exact nomatch h

theorem rest_fit {s : CurState} {r : List Bool} (h : rest s = .ok r) : s.pos + scanNul r.length r ≤ s.input.length := by
  obtain ⟨hp, rfl⟩ := rest_ok h
  have := scanNul_le (s.input.drop s.pos).length (s.input.drop s.pos)
  rw [List.length_drop] at this ⊢
  omega

/-- `nulbytestr` / `cstr` -/
theorem nulRead_eq (s : CurState) (mk : List Bool → Cell) :
    nulRead s mk =
      lift s (rest s) fun r =>
        if r.length % 8 ≠ 0 then (s, .err .toBytestrError)
        else if full s then (s, .err (limErr s))
        else ({ s with pos := s.pos + scanNul r.length r, ds := mk (r.take (scanNul r.length r)) :: s.ds }, .ok ()) := by
  refine lift_congr fun r hr => ?_
  split
  · rfl
  · exact pushThen_move s _ _ (rest_fit hr)

theorem run_cons_ok {s s1 : CurState} {op : POp} {ops : List POp} (h : step s op = (s1, .ok ())) :
    run s (op :: ops) = run s1 ops := by
  simp [run, h]

theorem run_append_ok {s s1 : CurState} {a b : List POp} (h : run s a = (s1, .ok ())) :
    run s (a ++ b) = run s1 b := by
  induction a generalizing s with
  | nil => cases h; rfl
  | cons op a ih =>
    rcases hr : step s op with ⟨s2, _ | e | p⟩
    · rw [run_cons_ok hr] at h
      rw [List.cons_append, run_cons_ok hr, ih h]
    · simp [run, hr] at h
    · simp [run, hr] at h

theorem run_one (s : CurState) (op : POp) : run s [op] = step s op := by
  unfold run
  split
  · rename_i h; exact h.symm
  · rfl

theorem runAll_cons (s : CurState) (op : POp) (ops : List POp) :
    runAll s (op :: ops) = runAll (step s op).1 ops := rfl

theorem runAll_append (s : CurState) (a b : List POp) : runAll s (a ++ b) = runAll (runAll s a) b := by
  induction a generalizing s with
  | nil => rfl
  | cons op a ih => simp [runAll_cons, ih]

theorem runAll_snoc (s : CurState) (p : List POp) (op : POp) : runAll s (p ++ [op]) = (step (runAll s p) op).1 :=
  runAll_append s p [op]

/-- What every word keeps, the history keeps.  The word's place in the history (after the prefix `p`) is there for
    hypotheses that speak of prefixes; `hp.subset` turns it into membership. -/
theorem runAll_ind {P : CurState → Prop} : ∀ (ops : List POp) (s : CurState),
    (∀ p op, p ++ [op] <+: ops → P (runAll s p) → P (step (runAll s p) op).1) → P s → P (runAll s ops)
  | [], _, _, h => h
  | op :: ops, _, hk, h =>
    runAll_ind ops _ (fun p o hp => hk (op :: p) o (List.cons_prefix_cons.mpr ⟨rfl, hp⟩))
      (hk [] op (List.prefix_iff_eq_take.mpr rfl) h)

theorem mem_of_snoc_prefix {p ops : List POp} {op : POp} (hp : p ++ [op] <+: ops) : op ∈ ops :=
  hp.subset (List.mem_append_right p List.mem_cons_self)

abbrev CurState.popped (s : CurState) (j : Nat) : CurState := { s with ds := s.ds.drop j }

/-- The ways a word can end.  On failure it has taken some of its arguments, and `emit` may by then have counted its
    bits (`outputLen := l`). -/
inductive Effect (s : CurState) : POp → Res → Prop
  | fail {op} (k : Nat) (hk : k ≤ op.arity) (l : Nat) (r : Outcome Unit) (hr : r ≠ .ok ()) :
      Effect s op ({ s.popped k with outputLen := l }, r)
  | stack {op} (k : Nat) (c : Cell) (room : full (s.popped k) = false) :
      Effect s op ({ s with ds := c :: s.ds.drop k }, .ok ())
  | read {op} (k : Nat) (c : Cell) (room : full (s.popped k) = false) (n : Nat) (fit : s.pos + n ≤ s.input.length) :
      Effect s op ({ s with pos := s.pos + n, ds := c :: s.ds.drop k }, .ok ())
  | seek (p : Nat) (fit : p ≤ s.base + s.input.length) : Effect s .seek ({ s.popped 1 with pos := p - s.base }, .ok ())
  | opened (b : List Bool) (base : Nat) :
      Effect s (.openBitstr base)
        ({ s.popped 1 with input := b, base := base, pos := 0, stash := ⟨s.input, s.base, s.pos⟩ :: s.stash }, .ok ())
  | closed (f : Frame) (r : List Frame) (hs : s.stash = f :: r) :
      Effect s .closeBitstr ({ s with input := f.bits, base := f.base, pos := f.pos, stash := r }, .ok ())
  | big : Effect s .big ({ s with bigEndian := true }, .ok ())
  | little : Effect s .little ({ s with bigEndian := false }, .ok ())
  | limit (l : Option Nat) : Effect s (.limit l) ({ s with stackLimit := l }, .ok ())
  | out {op} (k l : Nat) (o : Option (List Bool)) : Effect s op ({ s.popped k with outputLen := l, output := o }, .ok ())

namespace Effect

/-! `Effect s op` is closed under the combinators `step` is written with, run after `j` cells have been taken.  The
bound on `j` is asked for as a boolean test, so that `rfl` proves it for every word. -/
section
variable {s : CurState} {op : POp} {j : Nat} (hj : decide (j ≤ op.arity) = true)
include hj

theorem err (e : Xerr) : Effect s op (s.popped j, .err e) :=
  .fail j (of_decide_eq_true hj) s.outputLen _ nofun

theorem lift {α : Type} {o : Outcome α} {K : α → Res} (h : ∀ a, o = .ok a → Effect s op (K a)) :
    Effect s op (lift (s.popped j) o K) := by
  cases o with
  | ok a => exact h a rfl
  | err e => exact err hj e
  | panic p => exact .fail j (of_decide_eq_true hj) s.outputLen _ nofun

theorem pushC (c : Cell) : Effect s op (pushC (s.popped j) c) := by
  unfold Cur.pushC
  split
  · exact err hj _
  · rename_i hf
    exact .stack j c (Bool.eq_false_iff.mpr hf)

theorem readWith (n : Nat) (conv : List Bool → Outcome Cell) : Effect s op (readWith (s.popped j) n conv) := by
  rw [readWith_eq]
  refine lift hj fun bs hbs => lift hj fun c _ => ?_
  split
  · exact err hj _
  · rename_i hf
    exact .read j c (Bool.eq_false_iff.mpr hf) n (peek_ok hbs).1

theorem nulRead (mk : List Bool → Cell) : Effect s op (nulRead (s.popped j) mk) := by
  rw [nulRead_eq]
  refine lift hj fun r hr => ?_
  split
  · exact err hj _
  · split
    · exact err hj _
    · rename_i hf
      exact .read j _ (Bool.eq_false_iff.mpr hf) _ (rest_fit hr)

end

variable {s : CurState} {op : POp} {j : Nat} (hj : decide (j < op.arity) = true)
include hj

theorem popCell {K : Cell → CurState → Res} (h : ∀ c, Effect s op (K c (s.popped (j + 1)))) :
    Effect s op (popCell (s.popped j) K) := by
  unfold Cur.popCell
  split
  · exact err (decide_eq_true (Nat.le_of_lt (of_decide_eq_true hj))) _
  · rename_i c t ht
    have : t = s.ds.drop (j + 1) := by
      rw [← List.drop_drop, show s.ds.drop j = c :: t from ht]; rfl
    exact this ▸ h c

theorem popUsize {K : Nat → CurState → Res} (h : ∀ n, Effect s op (K n (s.popped (j + 1)))) :
    Effect s op (popUsize (s.popped j) K) :=
  popCell hj fun _ => lift hj fun n _ => h n

theorem popBitstr {K : List Bool → CurState → Res} (h : ∀ b, Effect s op (K b (s.popped (j + 1)))) :
    Effect s op (popBitstr (s.popped j) K) :=
  popCell hj fun _ => lift hj fun b _ => h b

theorem packIntBo (n : Nat) (big : Bool) : Effect s op (packIntBo (s.popped j) n big) :=
  popCell hj fun _ => lift hj fun _ _ => pushC hj _

theorem packFloatBo (n : Nat) (big : Bool) : Effect s op (packFloatBo (s.popped j) n big) :=
  popCell hj fun _ => lift hj fun _ _ => by
    split
    · exact pushC hj _
    · split
      · exact pushC hj _
      · exact err hj _

end Effect

/-- `s.popped 0` is `s`: stated so, the lemmas above apply to a word's first combinator as to any later one -/
theorem step_effect_popped (s : CurState) (op : POp) : Effect s op (step (s.popped 0) op) := by
  cases op with
  | push | remain | offset | input | output | outputLength => exact .pushC rfl _
  | intercept yes => cases yes <;> exact .out 0 s.outputLen _
  | limit l => exact .limit l
  | big => exact .big
  | little => exact .little
  | readU | readI | readF => exact .readWith rfl _ _
  | bits | uint | int | float => exact .popUsize rfl fun _ => .readWith rfl _ _
  | magic => exact .popBitstr rfl fun _ => .readWith rfl _ _
  | bytes =>
    refine .popUsize rfl fun n => ?_
    split
    · exact .err rfl _
    · exact .readWith rfl _ _
  | seek =>
    refine .popUsize rfl fun p => ?_
    unfold moveAbs moveThen
    split
    · rename_i h
      exact .seek p h.2
    · exact .err rfl _
  | find =>
    refine .popBitstr rfl fun pat => .lift rfl fun r _ => ?_
    split
    · exact .err rfl _
    · split
      · exact .err rfl _
      · split <;> exact .pushC rfl _
  | nulbytestr => exact .nulRead rfl _
  | cstr => exact .nulRead rfl fun bs => .str (cstrChars bs)
  | openBitstr base => exact .popBitstr rfl fun b => .opened b base
  | closeBitstr =>
    show Effect s _ (match s.stash with | [] => _ | f :: r => _)
    split
    · exact .err (j := 0) rfl _
    · rename_i f r hs
      exact .closed f r hs
  | packInt => exact .packIntBo rfl _ _
  | packF => exact .packFloatBo rfl _ _
  | packIntN => exact .popUsize rfl fun _ => .packIntBo rfl _ _
  | packFN => exact .popUsize rfl fun _ => .packFloatBo rfl _ _
  | toBitstr =>
    exact .popCell (K := fun c s => lift s (bitstrConcat c) fun b => pushC s (.bitstr b)) rfl
      fun _ => .lift rfl fun _ _ => .pushC rfl _
  | bitstrAppend => exact .popBitstr rfl fun _ => .popBitstr rfl fun _ => .pushC rfl _
  | emit =>
    refine .popBitstr rfl fun bs => ?_
    split
    · exact .fail 1 (by decide) s.outputLen _ nofun
    · dsimp only
      split
      · exact .out 1 _ _
      · split
        · exact .out 1 _ s.output
        · exact .fail 1 (by decide) _ _ nofun

theorem step_effect (s : CurState) (op : POp) : Effect s op (step s op) := step_effect_popped s op

def POp.isRead : POp → Bool
  | .bits | .bytes | .readU _ _ | .readI _ _ | .readF _ _ | .uint | .int | .float
  | .magic | .nulbytestr | .cstr => true
  | _ => false

abbrev numCell (v : Cell) (len : Nat) (big : Bool) : Cell := .tagged v (numTags len big)

/-- `op`, run in state `s` (its arguments on the stack), asks for `n` bits and delivers `v` -/
def ReadSpec (s : CurState) (n : Nat) (v : Cell) : POp → Prop
  | .bits => ∃ c, s.ds.head? = some c ∧ c.toUsize = .ok n ∧ v = .bitstr (slice s n)
  | .bytes => ∃ c m, s.ds.head? = some c ∧ c.toUsize = .ok m ∧ n = m * 8 ∧ v = .bitstr (slice s n)
  | .readU k bo => n = k ∧ k ≤ 127 ∧
      v = numCell (.int (toUint (byteorder s bo) (slice s n))) n (byteorder s bo)
  | .readI k bo => n = k ∧ k ≤ 128 ∧
      v = numCell (.int (toInt (byteorder s bo) (slice s n))) n (byteorder s bo)
  | .readF k bo => n = k ∧
      ((k = 32 ∧ v = numCell (.real (f32to64 (UInt32.ofNat (toUint (byteorder s bo) (slice s n))))) n (byteorder s bo)) ∨
       (k = 64 ∧ v = numCell (.real (UInt64.ofNat (toUint (byteorder s bo) (slice s n)))) n (byteorder s bo)))
  | .uint => ∃ c, s.ds.head? = some c ∧ c.toUsize = .ok n ∧ n ≤ 127 ∧
      v = numCell (.int (toUint s.bigEndian (slice s n))) n s.bigEndian
  | .int => ∃ c, s.ds.head? = some c ∧ c.toUsize = .ok n ∧ n ≤ 128 ∧
      v = numCell (.int (toInt s.bigEndian (slice s n))) n s.bigEndian
  | .float => ∃ c, s.ds.head? = some c ∧ c.toUsize = .ok n ∧
      ((n = 32 ∧ v = numCell (.real (f32to64 (UInt32.ofNat (toUint s.bigEndian (slice s n))))) n s.bigEndian) ∨
       (n = 64 ∧ v = numCell (.real (UInt64.ofNat (toUint s.bigEndian (slice s n)))) n s.bigEndian))
  | .magic => ∃ c pat, s.ds.head? = some c ∧ c.toBitstr = .ok pat ∧ n = pat.length ∧ slice s n = pat ∧
      v = .bitstr pat
  | .nulbytestr => (s.input.length - s.pos) % 8 = 0 ∧
      n = scanNul (s.input.length - s.pos) (s.input.drop s.pos) ∧ v = .bitstr (slice s n)
  | .cstr => (s.input.length - s.pos) % 8 = 0 ∧
      n = scanNul (s.input.length - s.pos) (s.input.drop s.pos) ∧ v = .str (cstrChars (slice s n))
  | _ => False

theorem slice_length {s : CurState} {n : Nat} (h : s.pos + n ≤ s.input.length) : (slice s n).length = n := by
  simp [slice]; omega

@[simp] theorem slice_ds (s : CurState) (t : List Cell) (n : Nat) : slice { s with ds := t } n = slice s n := rfl
@[simp] theorem peek_ds (s : CurState) (t : List Cell) (n : Nat) : peek { s with ds := t } n = peek s n := rfl

theorem popCell_ok {s : CurState} {k s'} (h : popCell s k = (s', .ok ())) :
    ∃ c, s.ds = c :: s.ds.drop 1 ∧ k c (s.popped 1) = (s', .ok ()) := by
  unfold popCell at h
  split at h
  · simp at h
  · rename_i c t hd
    have : t = s.ds.drop 1 := by rw [hd]; rfl
    subst this
    exact ⟨c, hd, h⟩

theorem lift_ok {α} {s : CurState} {o : Outcome α} {k s'} (h : lift s o k = (s', .ok ())) :
    ∃ a, o = .ok a ∧ k a = (s', .ok ()) := by
  unfold lift at h
  split at h
  · exact ⟨_, rfl, h⟩
  · simp at h
  · simp at h

theorem popUsize_ok {s : CurState} {k s'} (h : popUsize s k = (s', .ok ())) :
    ∃ c n, s.ds = c :: s.ds.drop 1 ∧ c.toUsize = .ok n ∧ k n (s.popped 1) = (s', .ok ()) := by
  obtain ⟨c, hd, h⟩ := popCell_ok h
  obtain ⟨n, hn, h⟩ := lift_ok h
  exact ⟨c, n, hd, hn, h⟩

theorem popBitstr_ok {s : CurState} {k s'} (h : popBitstr s k = (s', .ok ())) :
    ∃ c b, s.ds = c :: s.ds.drop 1 ∧ c.toBitstr = .ok b ∧ k b (s.popped 1) = (s', .ok ()) := by
  obtain ⟨c, hd, h⟩ := popCell_ok h
  obtain ⟨b, hb, h⟩ := lift_ok h
  exact ⟨c, b, hd, hb, h⟩

section
variable {s : CurState} {c : Cell} {t : List Cell} (hds : s.ds = c :: t)
include hds

theorem popUsize_cons (K : Nat → CurState → Res) {n : Nat} (hn : c.toUsize = .ok n) :
    popUsize s K = K n { s with ds := t } := by
  simp only [popUsize, popCell, hds, lift, hn]

theorem popBitstr_cons (K : List Bool → CurState → Res) {b : List Bool} (hb : c.toBitstr = .ok b) :
    popBitstr s K = K b { s with ds := t } := by
  simp only [popBitstr, popCell, hds, lift, hb]

theorem step_open {b : List Bool} (hb : c.toBitstr = .ok b) (base : Nat) :
    step s (.openBitstr base) =
      ({ s with input := b, base := base, pos := 0, stash := ⟨s.input, s.base, s.pos⟩ :: s.stash, ds := t }, .ok ()) :=
  popBitstr_cons hds _ hb

end

theorem pushC_ok {s : CurState} {c : Cell} {s'} (h : pushC s c = (s', .ok ())) :
    s' = { s with ds := c :: s.ds } ∧ full s = false := by
  unfold pushC at h
  split at h
  · simp at h
  · rename_i hf
    simp only [Prod.mk.injEq, and_true] at h
    exact ⟨h.symm, by simpa using hf⟩

theorem moveThen_ok {s : CurState} {abs k s'} (h : moveThen s abs k = (s', .ok ())) :
    s.base ≤ abs ∧ abs ≤ s.base + s.input.length ∧ k { s with pos := abs - s.base } = (s', .ok ()) := by
  unfold moveThen at h
  split at h
  · rename_i hc; exact ⟨hc.1, hc.2, h⟩
  · simp at h

theorem readWith_ok {s : CurState} {n conv s'} (h : readWith s n conv = (s', .ok ())) :
    s.pos + n ≤ s.input.length ∧ full s = false ∧ ∃ c, conv (slice s n) = .ok c ∧
      s' = { s with pos := s.pos + n, ds := c :: s.ds } := by
  rw [readWith_eq] at h
  obtain ⟨bs, hb, h⟩ := lift_ok h
  obtain ⟨hfit, rfl⟩ := peek_ok hb
  obtain ⟨c, hc, h⟩ := lift_ok h
  split at h
  · simp at h
  · rename_i hf
    exact ⟨hfit, Bool.eq_false_iff.mpr hf, c, hc, (Prod.mk.inj h).1.symm⟩

theorem nulRead_ok {s : CurState} {mk s'} (h : nulRead s mk = (s', .ok ())) :
    (s.input.length - s.pos) % 8 = 0 ∧ full s = false ∧
    ∃ n, n = scanNul (s.input.length - s.pos) (s.input.drop s.pos) ∧ s.pos + n ≤ s.input.length ∧
      s' = { s with pos := s.pos + n, ds := mk (slice s n) :: s.ds } := by
  rw [nulRead_eq] at h
  obtain ⟨r, hr, h⟩ := lift_ok h
  have hfit := rest_fit hr
  obtain ⟨_, rfl⟩ := rest_ok hr
  rw [List.length_drop] at h hfit
  split at h
  · simp at h
  · rename_i h8
    split at h
    · simp at h
    · rename_i hf
      exact ⟨Decidable.not_not.mp h8, Bool.eq_false_iff.mpr hf, _, rfl, hfit, (Prod.mk.inj h).1.symm⟩

theorem width_guard_ok {len K : Nat} {e : Xerr} {x v : Cell} :
    (if len > K then Outcome.err e else .ok x) = .ok v ↔ len ≤ K ∧ v = x := by
  split
  · exact ⟨nofun, fun h => by omega⟩
  · exact ⟨fun h => ⟨by omega, (Outcome.ok.inj h).symm⟩, fun h => h.2 ▸ rfl⟩

section
variable {big : Bool} {bs : List Bool} {n : Nat} {v : Cell} (hn : bs.length = n)
include hn

theorem convUnsigned_ok : convUnsigned big bs = .ok v ↔ n ≤ 127 ∧ v = numCell (.int (toUint big bs)) n big :=
  hn ▸ width_guard_ok

theorem convSigned_ok : convSigned big bs = .ok v ↔ n ≤ 128 ∧ v = numCell (.int (toInt big bs)) n big :=
  hn ▸ width_guard_ok

theorem convFloat_ok : convFloat n big bs = .ok v ↔
    (n = 32 ∧ v = numCell (.real (f32to64 (UInt32.ofNat (toUint big bs)))) n big) ∨
    (n = 64 ∧ v = numCell (.real (UInt64.ofNat (toUint big bs))) n big) := by
  subst hn
  unfold convFloat
  split
  · rename_i h32
    simp [h32, eq_comm]
  · split
    · rename_i h32 h64
      simp [h64, eq_comm]
    · simp [*]

end

end Xeh.Cur
