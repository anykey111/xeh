/-
As long as a sequence of words never closes below a given depth, the frames below that depth are still there, in order.
-/
import XehModel.Proofs.CursorLemmas

namespace Xeh.Cur
open Xeh

theorem runAll_stash_suffix (B : List Frame) (ops : List POp) (s : CurState) (hB : B <:+ s.stash)
    (hdepth : ∀ p, p <+: ops → B.length ≤ (runAll s p).stash.length) : B <:+ (runAll s ops).stash := by
  refine runAll_ind (P := fun t => B <:+ t.stash) ops s (fun p op hp hB => ?_) hB
  have h1 := hdepth _ hp
  rw [runAll_snoc] at h1
  generalize runAll s p = t at hB h1 ⊢
  have e := step_effect t op
  generalize step t op = res at e h1 ⊢
  cases e with
  | opened => exact hB.trans (List.suffix_cons _ _)
  | closed f t hs =>
    -- a frame is popped, and `B` is not all of the stash: it would be longer than what is left
    rw [hs] at hB
    exact (List.suffix_cons_iff.mp hB).resolve_left fun hEq => by
      rw [hEq, List.length_cons] at h1; exact absurd h1 (Nat.not_succ_le_self _)
  | _ => exact hB

end Xeh.Cur
