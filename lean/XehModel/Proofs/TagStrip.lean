/-
C13: recursive untagging `strip` commutes with everything the words look at.
-/
import XehModel.Model.Tags
import XehModel.Proofs.CollMap
import XehModel.Proofs.CollSort

namespace Xeh

/-- the payload of the cell is not itself a tagged cell (true of every cell the implementation builds) -/
def TopWF (c : Cell) : Prop := c.value.tags = none

theorem Cell.TagWF.top : ∀ {c : Cell}, c.TagWF → TopWF c
  | .tagged v t, h => by simp [Cell.TagWF] at h; simpa [TopWF, Cell.value] using h.1
  | .nil, _ => rfl | .flag _, _ => rfl | .int _, _ => rfl | .real _, _ => rfl | .str _, _ => rfl
  | .vec _, _ => rfl | .map _, _ => rfl | .fn _ _, _ => rfl | .bitstr _, _ => rfl | .any _, _ => rfl

theorem strip_value (c : Cell) : c.value.strip = c.strip := by
  cases c <;> simp [Cell.value, Cell.strip]

mutual
theorem strip_idem : ∀ c : Cell, c.strip.strip = c.strip
  | .tagged v _ => by simp only [Cell.strip]; exact strip_idem v
  | .vec xs => by simp only [Cell.strip]; rw [stripList_idem xs]
  | .map kv => by simp only [Cell.strip]; rw [stripPairs_idem kv]
  | .nil => rfl | .flag _ => rfl | .int _ => rfl | .real _ => rfl | .str _ => rfl
  | .fn _ _ => rfl | .bitstr _ => rfl | .any _ => rfl
theorem stripList_idem : ∀ l : CellList, l.strip.strip = l.strip
  | .nil => rfl
  | .cons h t => by simp only [CellList.strip]; rw [strip_idem h, stripList_idem t]
theorem stripPairs_idem : ∀ l : PairList, l.strip.strip = l.strip
  | .nil => rfl
  | .cons k v t => by simp only [PairList.strip]; rw [strip_idem k, strip_idem v, stripPairs_idem t]
end

theorem strip_tags : ∀ c : Cell, c.strip.tags = none
  | .tagged v _ => by simp only [Cell.strip]; exact strip_tags v
  | .vec _ => rfl | .map _ => rfl
  | .nil => rfl | .flag _ => rfl | .int _ => rfl | .real _ => rfl | .str _ => rfl
  | .fn _ _ => rfl | .bitstr _ => rfl | .any _ => rfl

theorem strip_value_self (c : Cell) : c.strip.value = c.strip := by
  have := strip_tags c
  cases h : c.strip <;> simp_all [Cell.value, Cell.tags]

/-- `Shape v w`: `v` is an untagged cell and `w` its strip, constructor by constructor, so that `cases` on it splits
    `c.value` and `c.strip` together -/
inductive Shape : Cell → Cell → Prop
  | nil : Shape .nil .nil
  | flag b : Shape (.flag b) (.flag b)
  | int i : Shape (.int i) (.int i)
  | real r : Shape (.real r) (.real r)
  | str s : Shape (.str s) (.str s)
  | vec xs : Shape (.vec xs) (.vec xs.strip)
  | map kv : Shape (.map kv) (.map kv.strip)
  | fn n a : Shape (.fn n a) (.fn n a)
  | bitstr b : Shape (.bitstr b) (.bitstr b)
  | any i : Shape (.any i) (.any i)

theorem shape_of_topWF {c : Cell} (h : TopWF c) : Shape c.value c.strip := by
  rw [← strip_value c]
  unfold TopWF at h
  cases hv : c.value <;> simp [Cell.strip] <;> try constructor
  rw [hv] at h; simp [Cell.tags] at h

theorem CellList.strip_toList : ∀ l : CellList, l.strip.toList = l.toList.map Cell.strip
  | .nil => rfl
  | .cons h t => by simp [CellList.strip, CellList.toList, CellList.strip_toList t]

theorem PairList.strip_toList : ∀ l : PairList, l.strip.toList = l.toList.map fun p => (p.1.strip, p.2.strip)
  | .nil => rfl
  | .cons k v t => by simp [PairList.strip, PairList.toList, PairList.strip_toList t]

theorem CellList.strip_ofList : ∀ l : List Cell, (CellList.ofList l).strip = CellList.ofList (l.map Cell.strip)
  | [] => rfl
  | h :: t => by simp [CellList.ofList, CellList.strip, CellList.strip_ofList t]

theorem PairList.strip_ofList : ∀ l : List (Cell × Cell),
    (PairList.ofList l).strip = PairList.ofList (l.map fun p => (p.1.strip, p.2.strip))
  | [] => rfl
  | (k, v) :: t => by simp [PairList.ofList, PairList.strip, PairList.strip_ofList t]

theorem CellList.strip_length (l : CellList) : l.strip.length = l.length := by
  simp [CellList.length, CellList.strip_toList]

theorem CellList.TagWF_mem : ∀ {l : CellList}, l.TagWF → ∀ c ∈ l.toList, c.TagWF
  | .nil, _, c, hc => by simp [CellList.toList] at hc
  | .cons h t, hw, c, hc => by
    simp only [CellList.TagWF] at hw
    simp only [CellList.toList, List.mem_cons] at hc
    rcases hc with rfl | hc
    · exact hw.1
    · exact CellList.TagWF_mem hw.2 c hc

theorem PairList.TagWF_mem : ∀ {l : PairList}, l.TagWF → ∀ p ∈ l.toList, p.1.TagWF ∧ p.2.TagWF
  | .nil, _, p, hp => by simp [PairList.toList] at hp
  | .cons k v t, hw, p, hp => by
    simp only [PairList.TagWF] at hw
    simp only [PairList.toList, List.mem_cons] at hp
    rcases hp with rfl | hp
    · exact ⟨hw.1, hw.2.1⟩
    · exact PairList.TagWF_mem hw.2.2 p hp

theorem cmp_strip_left {a b : Cell} (ha : TopWF a) : Cell.cmp a.strip b = Cell.cmp a b := by
  have sa := shape_of_topWF ha
  unfold Cell.cmp Cell.partialCmp
  rw [strip_value_self a]
  generalize a.value = av at sa; generalize a.strip = a' at sa
  cases sa <;> rfl

theorem cmp_strip_right {a b : Cell} (hb : TopWF b) : Cell.cmp a b.strip = Cell.cmp a b := by
  have sb := shape_of_topWF hb
  unfold Cell.cmp Cell.partialCmp
  rw [strip_value_self b]
  generalize b.value = bv at sb; generalize b.strip = b' at sb
  cases sb
  case vec => cases a.value <;> rfl
  case map => cases a.value <;> rfl
  all_goals rfl

theorem cmp_strip {a b : Cell} (ha : TopWF a) (hb : TopWF b) : Cell.cmp a.strip b.strip = Cell.cmp a b :=
  (cmp_strip_left ha).trans (cmp_strip_right hb)

abbrev stripPair (p : Cell × Cell) : Cell × Cell := (p.1.strip, p.2.strip)

theorem insertL_strip {k : Cell} (v : Cell) (hk : TopWF k) : ∀ l : Entries, KeysIn TopWF l →
    (insertL k v l).map stripPair = insertL k.strip v.strip (l.map stripPair)
  | [], _ => rfl
  | (h, hv) :: t, hw => by
    have hh : TopWF h := hw.head
    simp only [insertL, List.map_cons, stripPair, cmp_strip hk hh]
    cases Cell.cmp k h <;> simp only [List.map_cons, stripPair]
    rw [← insertL_strip v hk t hw.tail]

theorem eraseL_strip {k : Cell} (hk : TopWF k) : ∀ l : Entries, KeysIn TopWF l →
    (eraseL k l).map stripPair = eraseL k.strip (l.map stripPair)
  | [], _ => rfl
  | (h, hv) :: t, hw => by
    have hh : TopWF h := hw.head
    simp only [eraseL, List.map_cons, stripPair, cmp_strip hk hh]
    cases Cell.cmp k h <;> simp only [List.map_cons, stripPair]
    rw [← eraseL_strip hk t hw.tail]

theorem lookupL_strip {k : Cell} (hk : TopWF k) : ∀ l : Entries, KeysIn TopWF l →
    (lookupL k l).map Cell.strip = lookupL k.strip (l.map stripPair)
  | [], _ => rfl
  | (h, hv) :: t, hw => by
    have hh : TopWF h := hw.head
    simp only [lookupL, List.map_cons, stripPair, cmp_strip hk hh]
    cases Cell.cmp k h <;> simp only [Option.map]
    exact lookupL_strip hk t hw.tail

theorem insertSorted_strip {x : Cell} (hx : TopWF x) : ∀ l : List Cell, (∀ y ∈ l, TopWF y) →
    (insertSorted x l).map Cell.strip = insertSorted x.strip (l.map Cell.strip)
  | [], _ => rfl
  | y :: t, hw => by
    have hy : TopWF y := hw y List.mem_cons_self
    simp only [insertSorted, List.map_cons, cmp_strip hx hy]
    split
    · simp only [List.map_cons]
      rw [insertSorted_strip hx t fun z hz => hw z (List.mem_cons_of_mem _ hz)]
    · rfl

theorem sortL_strip : ∀ l : List Cell, (∀ y ∈ l, TopWF y) → (sortL l).map Cell.strip = sortL (l.map Cell.strip)
  | [], _ => rfl
  | x :: t, hw => by
    simp only [sortL, List.map_cons]
    rw [insertSorted_strip (hw x List.mem_cons_self) _
        fun z hz => hw z (List.mem_cons_of_mem _ ((sortL_perm t).mem_iff.mp hz)),
      sortL_strip t fun z hz => hw z (List.mem_cons_of_mem _ hz)]

theorem TagWF_vec {c : Cell} {xs : CellList} (h : c.TagWF) (hv : c.toVec = .ok xs) : xs.TagWF := by
  cases c <;> simp [Cell.toVec, Cell.value] at hv
  · subst hv; simpa [Cell.TagWF] using h
  · rename_i v t; cases v <;> simp at hv
    subst hv; simp [Cell.TagWF] at h; exact h.2.1

theorem TagWF_map {c : Cell} {m : PairList} (h : c.TagWF) (hv : c.value = .map m) : m.TagWF := by
  cases c <;> simp [Cell.value] at hv
  · subst hv; simpa [Cell.TagWF] using h
  · subst hv; simp [Cell.TagWF] at h; exact h.2.1

theorem keysTopWF_of_TagWF {m : PairList} (h : m.TagWF) : KeysIn TopWF m.toList :=
  fun p hp => (PairList.TagWF_mem h p hp).1.top

theorem PairList.insert_strip (m : PairList) (k v : Cell) (hk : TopWF k) (hm : m.TagWF) :
    (m.insert k v).strip = m.strip.insert k.strip v.strip := by
  simp only [PairList.insert, PairList.strip_ofList, PairList.strip_toList]
  rw [← insertL_strip v hk _ (keysTopWF_of_TagWF hm)]

theorem PairList.erase_strip (m : PairList) (k : Cell) (hk : TopWF k) (hm : m.TagWF) :
    (m.erase k).strip = m.strip.erase k.strip := by
  simp only [PairList.erase, PairList.strip_ofList, PairList.strip_toList]
  rw [← eraseL_strip hk _ (keysTopWF_of_TagWF hm)]

theorem PairList.lookup_strip (m : PairList) (k : Cell) (hk : TopWF k) (hm : m.TagWF) :
    ((m.lookup k).getD .nil).strip = (m.strip.lookup k.strip).getD .nil := by
  simp only [PairList.lookup, PairList.strip_toList]
  rw [← lookupL_strip hk _ (keysTopWF_of_TagWF hm)]
  cases lookupL k m.toList <;> rfl

theorem sort_strip (xs : CellList) (hx : xs.TagWF) :
    (CellList.ofList (sortL xs.toList)).strip = CellList.ofList (sortL xs.strip.toList) := by
  rw [CellList.strip_ofList, sortL_strip _ fun y hy => (CellList.TagWF_mem hx y hy).top, CellList.strip_toList]

theorem sliceList_map (f : α → β) (l : List α) (a b : Int) : sliceList (l.map f) a b = (sliceList l a b).map f := by
  simp only [sliceList, List.length_map, List.map_drop, List.map_take]

end Xeh
