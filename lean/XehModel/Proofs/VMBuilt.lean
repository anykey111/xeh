/-
Every native word, `doInit` and the effects of every opcode are sequencings (`bindR`) of the VM's primitives: `Built`.
This is said once, here; a fact about all of them is then a fact about `bindR` and one fact per primitive (`IsPrim`),
by induction on `Built`: a relation between the machine before and after (`Proofs/VMPre`), a relation between two
machines that run side by side (`Proofs/VMCong`).
-/
import XehModel.Proofs.VMBind

namespace Xeh.Mach

/-- everything a primitive reads -/
structure Seen where
  ds : List Cell
  rs : List Frame
  loops : List Loop
  special : List Nat
  heap : List Cell
  stackLimit : Option Nat
  dsLen : Nat
  rsLen : Nat
  lsLen : Nat
  ssPtr : Nat
  mode : Mode

def seen (m : Mach) : Seen :=
  ⟨m.ds, m.rs, m.loops, m.special, m.heap, m.stackLimit, m.ctx.dsLen, m.ctx.rsLen, m.ctx.lsLen, m.ctx.ssPtr, m.ctx.mode⟩

/-- the operations through which the VM touches the machine. `read` is any answer computed from what is seen, the
    machine left as it is. The flag is true where the four that push or pop a call frame or a loop record are among
    them: no native word and no opcode but `call`, `ret`, `do`, `break`, `loop` uses those. -/
inductive IsPrim : Bool → {α : Type} → (Mach → R α) → Prop
  | read {fr : Bool} {α : Type} (f : Seen → Outcome α) : IsPrim fr fun m => (f (seen m), m)
  | topData {fr : Bool} : IsPrim fr topData
  | cellRef {fr : Bool} (i : Nat) : IsPrim fr fun m => (m.cellRef i, m)
  | topFrame {fr : Bool} : IsPrim fr fun m => (m.topFrame, m)
  | pushData {fr : Bool} (c : Cell) : IsPrim fr fun m => m.pushData c
  | popData {fr : Bool} : IsPrim fr popData
  | swapData {fr : Bool} : IsPrim fr swapData
  | rotData {fr : Bool} : IsPrim fr rotData
  | overData {fr : Bool} : IsPrim fr overData
  | pushSpecial {fr : Bool} (p : Nat) : IsPrim fr fun m => (.ok (), m.pushSpecial p)
  | popSpecial {fr : Bool} : IsPrim fr fun m => (.ok m.popSpecial.1, m.popSpecial.2)
  | swapCellRef {fr : Bool} (i : Nat) (v : Cell) : IsPrim fr fun m => m.swapCellRef i v
  | setLoopItems {fr : Bool} (c : Cell) : IsPrim fr fun m => m.setLoopItems c
  | loopNext {fr : Bool} : IsPrim fr loopNext
  | initLocalTop {fr : Bool} (i : Nat) (v : Cell) : IsPrim fr fun m => m.initLocalTop i v
  | out {fr : Bool} (s : List Char) : IsPrim fr fun m => (.ok (), { m with out := m.out ++ s })
  | stop {fr : Bool} : IsPrim fr fun m => (.ok (), { m with aboutToStop := true })
  | pushReturn (f : Frame) : IsPrim true fun m => (.ok (), m.pushReturn f)
  | popReturn : IsPrim true popReturn
  | pushLoop (l : Loop) : IsPrim true fun m => (.ok (), m.pushLoop l)
  | popLoop : IsPrim true popLoop

inductive Built (fr : Bool) : {α : Type} → (Mach → R α) → Prop
  | prim {α : Type} {x : Mach → R α} : IsPrim fr x → Built fr x
  | bind {α β : Type} {x : Mach → R α} {f : α → Mach → R β} :
      Built fr x → (∀ a, Built fr (f a)) → Built fr fun m => bindR (x m) f

namespace Built
variable {fr : Bool} {α β : Type}

theorem of_eq {x y : Mach → R α} (h : ∀ m, x m = y m) (hy : Built fr y) : Built fr x := by
  rw [funext h]; exact hy

theorem pure (o : Outcome α) : Built fr fun m => (o, m) := .prim (.read fun _ => o)

/-- `x`, then an answer computed from its result -/
theorem andPure {x : Mach → R α} (hx : Built fr x) (k : α → Outcome β) : Built fr fun m => bindR (x m) fun a m => (k a, m) :=
  .bind hx fun a => .pure (k a)

theorem dupData : Built fr dupData :=
  .of_eq dupData_eq (.bind (.prim .topData) fun c => .prim (.pushData c))

theorem runProg (p : Prog) : Built fr (runProg p) := by
  induction p with
  | done => exact .pure _
  | fail e => exact .pure _
  | panic s => exact .pure _
  | pop k ih => exact .of_eq (runProg_pop · k) (.bind (.prim .popData) ih)
  | push c k ih => exact .of_eq (runProg_push · c k) (.bind (.prim (.pushData c)) fun _ => ih)
  | top k ih => exact .of_eq (runProg_top · k) (.bind (.prim .topData) ih)
  | dup k ih => exact .of_eq (runProg_dup · k) (.bind .dupData fun _ => ih)
  | swap k ih => exact .of_eq (runProg_swap · k) (.bind (.prim .swapData) fun _ => ih)
  | rot k ih => exact .of_eq (runProg_rot · k) (.bind (.prim .rotData) fun _ => ih)
  | over k ih => exact .of_eq (runProg_over · k) (.bind (.prim .overData) fun _ => ih)
  | depth k ih => exact .of_eq (fun _ => rfl) (.bind (.prim (.read fun v => .ok (v.ds.length - v.dsLen))) ih)
  | rawLen k ih => exact .of_eq (fun _ => rfl) (.bind (.prim (.read fun v => .ok v.ds.length)) ih)
  | rawFrom ptr k ih => exact .of_eq (fun _ => rfl) (.bind (.prim (.read fun v => .ok (v.ds.reverse.drop ptr))) ih)
  | getVar idx k ih => exact .of_eq (runProg_getVar · idx k) (.bind (.prim (.cellRef idx)) ih)
  | setVar idx c k ih => exact .of_eq (runProg_setVar · idx c k) (.bind (.prim (.swapCellRef idx c)) fun _ => ih)
  | print s k ih => exact .of_eq (fun _ => rfl) (.bind (.prim (.out s)) fun _ => ih)
  | pushSpecial p k ih => exact .of_eq (fun _ => rfl) (.bind (.prim (.pushSpecial p)) fun _ => ih)
  | popSpecial k ih => exact .of_eq (fun _ => rfl) (.bind (.prim .popSpecial) ih)
  | loopAt n k ih =>
    exact .of_eq (fun _ => rfl) (.bind (.prim (.read fun v => .ok ((v.loops.take (v.loops.length - v.lsLen))[n]?))) ih)
  | setLoopItems c k ih => exact .of_eq (runProg_setLoopItems · c k) (.bind (.prim (.setLoopItems c)) fun _ => ih)
  | stop k ih => exact .of_eq (fun _ => rfl) (.bind (.prim .stop) fun _ => ih)

theorem doInit : Built fr doInit :=
  .of_eq doInit_eq <| .bind (.prim .popData) fun _ => .bind (.prim .popData) fun _ =>
    .bind (.pure _) fun _ => .andPure (.pure _) _

end Built

/-- the opcodes whose effects push or pop neither a call frame nor a loop record -/
def flat : Op → Bool
  | .call _ | .ret | .doOp _ | .breakOp _ | .loopOp _ => false
  | _ => true

theorem Built.execBody {fr : Bool} (np : String → Option Prog) (ip : Nat) (op : Op) (h : flat op = false → fr = true) :
    Built fr fun m => execBody np m ip op := by
  have pushNext : ∀ c : Cell, Built fr fun m => bindR (m.pushData c) fun _ m => (.ok Dest.next, m) :=
    fun c => .andPure (.prim (.pushData c)) _
  cases op <;> dsimp only [Mach.execBody]
  case nop | jump | resolve => exact .pure _
  case jumpIf | jumpIfNot => exact .bind (.prim .popData) fun _ => .andPure (.pure _) _
  case caseOf =>
    refine .bind (.prim .popData) fun a => .bind (.prim .topData) fun b => ?_
    split
    · exact .andPure (.prim .popData) _
    · exact .pure _
  case native =>
    split
    · exact .andPure (.runProg _) _
    · exact .pure _
  case loadStr | loadF64 | loadI64 | loadNil | loadCell => exact pushNext _
  case load i => exact .bind (.prim (.cellRef i)) pushNext
  case store i => exact .bind (.prim .popData) fun v => .andPure (.prim (.swapCellRef i v)) _
  case initLocal i => exact .bind (.prim .popData) fun v => .andPure (.prim (.initLocalTop i v)) _
  case loadLocal =>
    refine .bind (.prim .topFrame) fun f => ?_
    split
    · exact pushNext _
    · exact .pure _
  all_goals cases h rfl
  case call addr => exact .of_eq (fun _ => rfl) (.andPure (.prim (.pushReturn _)) fun _ => .ok (Dest.to addr))
  case ret => exact .andPure (.prim .popReturn) _
  case doOp =>
    refine .bind .doInit fun l => ?_
    split
    · exact .of_eq (fun _ => rfl) (.andPure (.prim (.pushLoop l)) fun _ => .ok Dest.next)
    · exact .pure _
  case breakOp => exact .andPure (.prim .popLoop) _
  case loopOp =>
    refine .bind (.prim .loopNext) fun again => ?_
    split
    · exact .pure _
    · exact .andPure (.prim .popLoop) _

end Xeh.Mach
