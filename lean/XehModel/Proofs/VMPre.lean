/-
Facts of the form "whatever the VM executes from `m`, the machine `m'` it leaves satisfies `T m m'`".  A reflexive and
transitive `T` that every primitive keeps (`Walk fr T`) is kept by whatever is `Built` from the primitives
(`Proofs/VMBuilt`): every native word, `doInit`, the effects of every opcode.  One level up the same argument needs
less: a `T` kept by the effects and by `setIp` is kept by `exec`, one kept by `exec`, the meter and `patchCode` is kept
by `step`, and `run` has one induction principle.
-/
import XehModel.Proofs.VMBuilt

namespace Xeh.Mach

/-! `T` is an explicit argument below: left to unification it is guessed from `T m x.2` before `trans` is looked at,
and guessed wrong. -/

section
variable (T : Mach → Mach → Prop) (trans : ∀ {a b c : Mach}, T a b → T b c → T a c)
include trans

theorem bindR_rel {α β : Type} {m : Mach} {x : R α} {f : α → Mach → R β} (hx : T m x.2)
    (hf : ∀ a m', T m' (f a m').2) : T m (bindR x f).2 := by
  rcases R.cases x with ⟨a, m', h⟩ | ⟨e, m', h⟩ | ⟨s, m', h⟩ <;> subst h
  · exact trans hx (hf a m')
  · exact hx
  · exact hx

theorem exec_rel {np : String → Option Prog} (hbody : ∀ m ip op, T m (execBody np m ip op).2)
    (hip : ∀ m n, T m (m.setIp n)) (m : Mach) (ip : Nat) (op : Op) : T m (exec np m ip op).2 := by
  rw [exec_eq]
  refine bindR_rel T trans (hbody m ip op) fun d m' => ?_
  cases d
  · exact hip m' _
  · exact hip m' _

variable (refl : ∀ m, T m m) {np : String → Option Prog} (hmeter : ∀ m, T m m.meterIncrease.2)
  (hpatch : ∀ m ip op, T m (m.patchCode ip op))
include refl hmeter hpatch

theorem fetch_rel (m : Mach) : T m m.fetch.2 := by
  refine bindR_rel T trans (hmeter m) fun _ m1 => ?_
  split
  · exact refl m1
  · exact bindR_rel T trans (refl m1) fun op m2 =>
      trans (hpatch m2 _ op) (bindR_rel T trans (hmeter _) fun _ m3 => refl m3)
  · exact refl m1

theorem step_rel (hexec : ∀ m ip op, T m (exec np m ip op).2) (m : Mach) : T m (step np m).2 := by
  rw [step_eq]
  exact bindR_rel T trans (fetch_rel T trans refl hmeter hpatch m) fun op m' => hexec m' _ op

end

theorem run_ind {np : String → Option Prog} {P : Mach → R Unit → Prop}
    (stop : ∀ m, m.isRunning = false → P m (.ok (), m))
    (last : ∀ m, m.isRunning = true → (∀ m1, step np m ≠ (.ok (), m1)) → P m (step np m))
    (more : ∀ m m1 r, m.isRunning = true → step np m = (.ok (), m1) → P m1 r → P m r) :
    ∀ (fuel : Nat) (m : Mach) (r : R Unit), run np fuel m = some r → P m r := by
  intro fuel
  induction fuel with
  | zero =>
    intro m r h
    rw [run] at h
    split at h
    · cases h
    · cases h; exact stop m (by simpa using ‹¬m.isRunning = true›)
  | succ f ih =>
    intro m r h
    rw [run] at h
    split at h
    · rename_i hr
      split at h
      · rename_i m1 hs; exact more m m1 r hr hs (ih m1 r h)
      · rename_i hne; cases h; exact last m hr hne
    · cases h; exact stop m (by simpa using ‹¬m.isRunning = true›)

theorem run_rel {np : String → Option Prog} (T : Mach → Mach → Prop) (refl : ∀ m, T m m)
    (trans : ∀ {a b c : Mach}, T a b → T b c → T a c) (hstep : ∀ m, m.isRunning = true → T m (step np m).2) :
    ∀ (fuel : Nat) (m : Mach) (r : R Unit), run np fuel m = some r → T m r.2 :=
  run_ind (P := fun m r => T m r.2) (fun m _ => refl m) (fun m hr _ => hstep m hr)
    fun m m1 r hr hs h => trans (by have := hstep m hr; rwa [hs] at this) h

/-- a reflexive and transitive `T` that every primitive keeps; with `fr = false` the four that push or pop a call frame
    or a loop record are exempt, and what it is kept by uses none of them -/
structure Walk (fr : Bool) (T : Mach → Mach → Prop) : Prop where
  refl : ∀ m, T m m
  trans : ∀ {a b c : Mach}, T a b → T b c → T a c
  prim : ∀ {α : Type} {x : Mach → R α}, IsPrim fr x → ∀ m, T m (x m).2

namespace Walk
variable {fr : Bool} {T : Mach → Mach → Prop} (W : Walk fr T)
include W

theorem built {α : Type} {x : Mach → R α} (h : Built fr x) : ∀ m, T m (x m).2 := by
  induction h with
  | prim h => exact W.prim h
  | bind _ _ ihx ihf => exact fun m => bindR_rel T W.trans (ihx m) fun a m' => ihf a m'

theorem runProg (p : Prog) (m : Mach) : T m (Mach.runProg p m).2 := W.built (.runProg p) m

theorem doInit (m : Mach) : T m m.doInit.2 := W.built .doInit m

theorem execBody_flat (np : String → Option Prog) (m : Mach) (ip : Nat) {op : Op} (h : flat op = true) :
    T m (Mach.execBody np m ip op).2 := W.built (.execBody np ip op fun h' => by rw [h] at h'; cases h') m

omit W in
theorem execBody (W : Walk true T) (np : String → Option Prog) (m : Mach) (ip : Nat) (op : Op) :
    T m (Mach.execBody np m ip op).2 := W.built (.execBody np ip op fun _ => rfl) m

end Walk

end Xeh.Mach
