/-
Tie B, bridge theorems (DESIGN §4.2) — the i64 test of `load_value_opcode` (state.rs), the `FMT_*` constants and `FmtFlags::default` (fmt_flags.rs).
-/
import XehModel.Proofs.Leaf.Common

namespace Xeh.LeafBridge
open Xeh.MI Xeh.Generated Xeh.LeafSpec

/-- the test `i64::MIN as i128 <= i && i <= i64::MAX as i128` by which the compiler decides to keep a literal inline -/
theorem loadI64_guard_matches_source (p : Profile) (i : Int) (h1 : -(2^127) ≤ i) (h2 : i < 2^127) :
    evalFn p src_load_i64_guard [i] = .ok [if fitsI64 i then 1 else 0] := by
  mi_eval src_load_i64_guard
  simp only [fitsI64, Bool.decide_and]

/-- `i as i64` -/
theorem loadI64_payload_matches_source (p : Profile) (i : Int) (h : fitsI64 i = true) :
    evalFn p src_load_i64_payload [i] = .ok [i] := by
  simp only [fitsI64, decide_eq_true_eq] at h
  mi_eval src_load_i64_payload

theorem fmt_constants_match (p : Profile) :
    evalFn p src_FMT_BASE_MASK [] = .ok [(fmtBaseMask : Nat)] ∧
    evalFn p src_FMT_PREFIX_BIT [] = .ok [(fmtPrefixBit : Nat)] ∧
    evalFn p src_FMT_TAGS_BIT [] = .ok [(fmtTagsBit : Nat)] ∧
    evalFn p src_FMT_FITSCREEN_BIT [] = .ok [(fmtFitscreenBit : Nat)] ∧
    evalFn p src_FMT_UPCASE_BIT [] = .ok [(fmtUpcaseBit : Nat)] ∧
    evalFn p src_fmt_default [] = .ok [(fmtDefault : Nat)] := by
  cases p <;> decide

end Xeh.LeafBridge
