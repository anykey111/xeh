/-
While a source is being built — tokens compiled by the flow-stack compiler,
meta blocks opened, run and closed, constants defined — the session stays an *extension* of the session
it was submitted to: everything that session had is still there, underneath what has been added.
`build_unwind` cuts the additions off again.
-/
import XehModel.Proofs.SessionLoop
import XehModel.Proofs.VMSeal
import XehModel.Proofs.CompileUnwind

namespace Xeh.Session
open Xeh Xeh.Mach Xeh.Compile Sess

/-! `hidOf l n = l.drop (l.length - n)` (Proofs/VMSeal.lean): the bottom `n` entries of a stack kept top first. -/

theorem hidOf_length (l : List α) (n : Nat) (h : n ≤ l.length) : (hidOf l n).length = n := by
  simp [hidOf]; omega

theorem hidOf_append_length (a b : List α) : hidOf (a ++ b) b.length = b := by
  simp [hidOf]

theorem hidOf_set_lt (l : List α) (n i : Nat) (x : α) (h : i < l.length - n) : hidOf (l.set i x) n = hidOf l n := by
  simp only [hidOf, List.length_set]
  rw [List.drop_set_of_lt h]

theorem hidOf_set_ge (l : List α) (n i : Nat) (x : α) (h : l.length - n ≤ i) :
    hidOf (l.set i x) n = (hidOf l n).set (i - (l.length - n)) x := by
  simp only [hidOf, List.length_set]
  rw [List.drop_set]
  simp [Nat.not_lt.mpr h]

theorem hidOf_len_le {l x : List α} {n : Nat} (h : hidOf l n = x) (hx : x.length = n) : n ≤ l.length := by
  have := congrArg List.length h
  simp only [hidOf, List.length_drop] at this
  omega

theorem hidOf_hidOf (l : List α) (n k : Nat) (h1 : n ≤ k) : hidOf (hidOf l k) n = hidOf l n := by
  simp only [hidOf, List.length_drop, List.drop_drop]
  congr 1; omega

theorem hidOf_congr {l l' : List α} {k : Nat} (n : Nat) (h : hidOf l' k = hidOf l k) (h1 : n ≤ k) :
    hidOf l' n = hidOf l n := by
  rw [← hidOf_hidOf l' n k h1, h, hidOf_hidOf l n k h1]

theorem hidOf_drop (l : List α) (k n : Nat) (h : n + k ≤ l.length) : hidOf (l.drop k) n = hidOf l n := by
  simp only [hidOf, List.length_drop, List.drop_drop]
  congr 1; omega

theorem take_len_le {l x : List α} {n : Nat} (h : l.take n = x) (hx : x.length = n) : n ≤ l.length := by
  rw [← hx, ← h]; exact (List.take_prefix n l).length_le

theorem hidOf_reverse (l : List α) (k : Nat) : hidOf l.reverse k = (l.take k).reverse := by
  simp only [hidOf, List.length_reverse]; rw [List.reverse_take]

theorem eq_of_hidOf_le {l x : List α} {n : Nat} (h : hidOf l n = x) (hl : l.length ≤ n) : l = x := by
  have : l.length - n = 0 := by omega
  simpa [hidOf, this] using h

/-- `undoConst` on the part of the dictionary that existed at the mark (`o`: its oldest entries, newest first) -/
def undoOld (o : List (String × Entry)) (u : Nat × Cell) : List (String × Entry) :=
  if u.1 < o.length then
    match o[o.length - 1 - u.1]? with
    | some (n, .const _) => o.set (o.length - 1 - u.1) (n, .const u.2)
    | _ => o
  else o

theorem undoOld_length (o : List (String × Entry)) (u : Nat × Cell) : (undoOld o u).length = o.length := by
  unfold undoOld; split
  · split <;> simp
  · rfl

theorem undoConst_length (d : List (String × Entry)) (u : Nat × Cell) : (undoConst d u).length = d.length := by
  unfold undoConst; simp only; split
  · split <;> simp
  · rfl

theorem undoConst_old (n : Nat) (d : List (String × Entry)) (u : Nat × Cell) (h : n ≤ d.length) :
    hidOf (undoConst d u) n = undoOld (hidOf d n) u := by
  have hl := hidOf_length d n h
  unfold undoConst undoOld
  simp only [hl]
  by_cases h1 : u.1 < d.length
  · simp only [h1, if_true]
    by_cases h2 : u.1 < n
    · simp only [h2, if_true]
      have hi : d.length - n ≤ d.length - 1 - u.1 := by omega
      have hget : (hidOf d n)[n - 1 - u.1]? = d[d.length - 1 - u.1]? := by
        simp only [hidOf, List.getElem?_drop]
        congr 1; omega
      rw [hget]
      rcases hd : d[d.length - 1 - u.1]? with _ | ⟨nm, e⟩
      · rfl
      · cases e <;> simp only []
        rw [hidOf_set_ge _ _ _ _ hi]
        congr 1; omega
    · simp only [h2, if_false]
      rcases hd : d[d.length - 1 - u.1]? with _ | ⟨nm, e⟩
      · rfl
      · cases e <;> simp only []
        rw [hidOf_set_lt]; omega
  · rw [if_neg h1, if_neg (fun h2 => h1 (Nat.lt_of_lt_of_le h2 h))]

theorem foldl_undoConst_old (n : Nat) (us : List (Nat × Cell)) : ∀ (d : List (String × Entry)), n ≤ d.length →
    hidOf (us.foldl undoConst d) n = us.foldl undoOld (hidOf d n) ∧ (us.foldl undoConst d).length = d.length := by
  induction us with
  | nil => intro d _; exact ⟨rfl, rfl⟩
  | cons u rest ih =>
    intro d h
    simp only [List.foldl_cons]
    have hl := undoConst_length d u
    obtain ⟨a, b⟩ := ih (undoConst d u) (by rw [hl]; exact h)
    exact ⟨by rw [a, undoConst_old n d u h], by rw [b, hl]⟩

/-- `s` still contains everything `s0` had (what `unwind` relies on) -/
structure Ext0 (s0 s : Sess) : Prop where
  code : s.m.code.take s0.m.code.length = s0.m.code
  dmap : s.dmap.take s0.dmap.length = s0.dmap
  dictLen : s0.m.dict.length ≤ s.m.dict.length
  undo : ∃ us, s.constUndo = us ++ s0.constUndo ∧ us.foldl undoOld (hidOf s.m.dict s0.m.dict.length) = s0.m.dict
  heap : s.m.heap.take s0.m.heap.length = s0.m.heap
  ds : hidOf s.m.ds s0.m.ds.length = s0.m.ds
  rs : hidOf s.m.rs s0.m.rs.length = s0.m.rs
  loops : hidOf s.m.loops s0.m.loops.length = s0.m.loops
  special : hidOf s.m.special s0.m.special.length = s0.m.special
  flows : hidOf s.flows s0.flows.length = s0.flows
  nested : hidOf s.nested s0.nested.length = s0.nested
  nolog : s0.m.log = none → s.m.log = none
  log : ∀ ℓ, s0.m.log = some ℓ → ∃ seg, s.m.log = some (seg ++ ℓ)
  limits : s.m.insnLimit = s0.m.insnLimit ∧ s.m.stackLimit = s0.m.stackLimit ∧ s.m.heapLimit = s0.m.heapLimit

/-- what remains: the meter, the stop flag, the last-token marker and the captured output (a meta block may have printed) -/
theorem unwind_restores {s0 s : Sess} (h : Ext0 s0 s) (hdm : s0.dmap.length = s0.m.code.length) :
    unwind s0 s = { s0 with m := { s0.m with meter := s.m.meter, out := s.m.out, aboutToStop := s.m.aboutToStop },
                            lastTok := s.lastTok } := by
  obtain ⟨us, hu, hfold⟩ := h.undo
  have hn : s.constUndo.length - s0.constUndo.length = us.length := by rw [hu]; simp
  have htake : s.constUndo.take us.length = us := by rw [hu]; simp
  have hdrop : s.constUndo.drop us.length = s0.constUndo := by rw [hu]; simp
  obtain ⟨hd1, hd2⟩ := foldl_undoConst_old s0.m.dict.length us s.m.dict h.dictLen
  have hlog : (s.m.log.map fun l => l.drop (l.length - (s0.m.log.map List.length).getD 0)) = s0.m.log := by
    cases h0 : s0.m.log with
    | none => rw [h.nolog h0]; rfl
    | some ℓ =>
      obtain ⟨seg, e⟩ := h.log ℓ h0
      rw [e]; simp
  rcases s0 with ⟨m0, dmap0, flows0, nested0, cu0, lt0⟩
  rcases m0 with ⟨code0, heap0, ds0, rs0, loops0, special0, ctx0, meter0, il0, sl0, hl0, log0, out0, ats0, dict0⟩
  simp only [unwind, hn, htake, hdrop, Sess.mk.injEq, Mach.mk.injEq]
  simp only at hd1 hd2 hfold hlog
  have := h.code; have := hdm ▸ h.dmap; have := h.heap; have := h.ds; have := h.rs; have := h.loops; have := h.special
  have := h.flows; have := h.nested; have hlim := h.limits
  simp only [hidOf] at *
  refine ⟨⟨by assumption, by assumption, by assumption, by assumption, by assumption, by assumption, trivial, trivial,
    hlim.1, hlim.2.1, hlim.2.2, hlog, trivial, trivial, ?_⟩, by assumption, by assumption, by assumption, trivial, trivial⟩
  rw [hd1]; exact hfold

/-- two contexts with the same marks differ in the instruction pointer at most -/
theorem marks_fields {c c' : Ctx} (e : c'.marks = c.marks) :
    c'.dsLen = c.dsLen ∧ c'.csLen = c.csLen ∧ c'.rsLen = c.rsLen ∧ c'.fsLen = c.fsLen ∧ c'.lsLen = c.lsLen ∧
    c'.ssPtr = c.ssPtr ∧ c'.diLen = c.diLen ∧ c'.mode = c.mode ∧ c'.dsOpen = c.dsOpen := by
  cases c; cases c'
  simpa [Ctx.marks] using e

theorem marks_mode {c c' : Ctx} (e : c'.marks = c.marks) : c'.mode = c.mode := (marks_fields e).2.2.2.2.2.2.2.1

theorem _root_.Xeh.Mach.Sealed.below {m m' : Mach} (sl : Sealed m m') :
    m'.ctx.marks = m.ctx.marks ∧ hidOf m'.ds m.ctx.dsLen = hidOf m.ds m.ctx.dsLen ∧
    hidOf m'.rs m.ctx.rsLen = hidOf m.rs m.ctx.rsLen ∧ hidOf m'.loops m.ctx.lsLen = hidOf m.loops m.ctx.lsLen ∧
    hidOf m'.special m.ctx.ssPtr = hidOf m.special m.ctx.ssPtr := by
  have hmarks : m'.ctx.marks = m.ctx.marks := congrArg Hid.marks sl.hid
  obtain ⟨e1, _, e2, _, e3, e4, _⟩ := marks_fields hmarks
  refine ⟨hmarks, ?_, ?_, ?_, ?_⟩
  · have := congrArg Hid.ds sl.hid; simp only [Core.hid, Mach.core, e1] at this; exact this
  · have := congrArg Hid.rs sl.hid; simp only [Core.hid, Mach.core, e2] at this; exact this
  · have := congrArg Hid.loops sl.hid; simp only [Core.hid, Mach.core, e3] at this; exact this
  · have := congrArg Hid.special sl.hid; simp only [Core.hid, Mach.core, e4] at this; exact this

/-- the marks of a context opened since `s0` lie above everything `s0` had -/
structure CtxOK (s0 : Sess) (c : Ctx) : Prop where
  cs : s0.m.code.length ≤ c.csLen
  fs : s0.flows.length ≤ c.fsLen
  di : s0.m.dict.length ≤ c.diLen
  rs : s0.m.rs.length ≤ c.rsLen
  ls : s0.m.loops.length ≤ c.lsLen
  ss : s0.m.special.length ≤ c.ssPtr
  /-- only for a meta block: `context_open` lets a context of the same mode as the enclosing one inherit its data-stack
      floor, so the floor of an eval / compile source may lie below `s0`'s stack -/
  ds : c.mode = .metaEval → s0.m.ds.length ≤ c.dsLen

/-- marks never decrease from an enclosing context to the one opened inside it -/
structure MarksLe (c c' : Ctx) : Prop where
  ds : c.dsLen ≤ c'.dsLen
  rs : c.rsLen ≤ c'.rsLen
  ls : c.lsLen ≤ c'.lsLen
  ss : c.ssPtr ≤ c'.ssPtr
  fs : c.fsLen ≤ c'.fsLen

/-- the marks of the context a source (or a meta block) was opened with: everything `s0` had, exactly -/
structure BaseMarks (s0 : Sess) (c : Ctx) : Prop where
  cs : c.csLen = s0.m.code.length
  fs : c.fsLen = s0.flows.length
  di : c.diLen = s0.m.dict.length
  rs : c.rsLen = s0.m.rs.length
  ls : c.lsLen = s0.m.loops.length
  ss : c.ssPtr = s0.m.special.length
  dsOpen : c.dsOpen = s0.m.ds.length
  /-- a context of the same mode as `s0`'s inherits `s0`'s floor instead (`context_open`) -/
  ds : c.mode ≠ s0.m.ctx.mode → c.dsLen = s0.m.ds.length

/-- the current context and the saved ones: the context the source was opened with, of mode `bm` (a meta block when
    `bm = .metaEval`: the "source" is then the block), above it only meta blocks, each above `s0`'s marks -/
inductive Chain (s0 : Sess) (bm : Mode) : Ctx → List Ctx → Prop
  | base (c : Ctx) : CtxOK s0 c → c.mode = bm → BaseMarks s0 c → Chain s0 bm c (s0.m.ctx :: s0.nested)
  | inner (c c' : Ctx) (rest : List Ctx) : Chain s0 bm c rest → CtxOK s0 c' → c'.mode = .metaEval → MarksLe c c' →
      Chain s0 bm c' (c :: rest)

theorem Chain.ok {s0 : Sess} {bm : Mode} {c : Ctx} {l : List Ctx} (h : Chain s0 bm c l) : CtxOK s0 c := by
  cases h with
  | base _ h _ _ => exact h
  | inner _ _ _ _ h _ _ => exact h

theorem Chain.nested {s0 : Sess} {bm : Mode} {c : Ctx} {l : List Ctx} (h : Chain s0 bm c l) :
    hidOf l s0.nested.length = s0.nested ∧ s0.nested.length < l.length := by
  induction h with
  | base c _ _ _ => exact ⟨by rw [hidOf_cons _ _ _ (Nat.le_refl _), hidOf_all], by simp⟩
  | inner c c' rest _ _ _ _ ih =>
    exact ⟨by rw [hidOf_cons _ _ _ (by omega)]; exact ih.1, by simp; omega⟩

theorem Chain.base_of_len {s0 : Sess} {bm : Mode} {c : Ctx} {l : List Ctx} (h : Chain s0 bm c l)
    (hl : l.length = s0.nested.length + 1) : c.mode = bm ∧ l = s0.m.ctx :: s0.nested := by
  cases h with
  | base _ _ hb _ => exact ⟨hb, rfl⟩
  | inner c1 _ rest hc _ _ _ =>
    have := hc.nested.2
    simp at hl; omega

theorem CtxOK.ofMarks {s0 : Sess} {c c' : Ctx} (o : CtxOK s0 c) (e : c'.marks = c.marks) : CtxOK s0 c' := by
  obtain ⟨e1, e2, e3, e4, e5, e6, e7, e8, _⟩ := marks_fields e
  exact ⟨e2 ▸ o.cs, e4 ▸ o.fs, e7 ▸ o.di, e3 ▸ o.rs, e5 ▸ o.ls, e6 ▸ o.ss, fun h => e1 ▸ o.ds (e8 ▸ h)⟩

theorem Chain.setIp {s0 : Sess} {bm : Mode} {c : Ctx} {l : List Ctx} (h : Chain s0 bm c l) (c' : Ctx) (e : c'.marks = c.marks) :
    Chain s0 bm c' l := by
  obtain ⟨e1, e2, e3, e4, e5, e6, e7, e8, e9⟩ := marks_fields e
  cases h with
  | base _ o hb bmk =>
    exact .base c' (o.ofMarks e) (e8 ▸ hb)
      ⟨e2 ▸ bmk.cs, e4 ▸ bmk.fs, e7 ▸ bmk.di, e3 ▸ bmk.rs, e5 ▸ bmk.ls, e6 ▸ bmk.ss, e9 ▸ bmk.dsOpen, fun h => e1 ▸ bmk.ds (e8 ▸ h)⟩
  | inner c1 _ rest hc o hmeta le =>
    exact .inner c1 c' rest hc (o.ofMarks e) (e8 ▸ hmeta) ⟨e1 ▸ le.ds, e3 ▸ le.rs, e5 ▸ le.ls, e6 ▸ le.ss, e4 ▸ le.fs⟩

/-- the invariant of a build: from `s` the build of a source submitted to `s0` goes on.  With `bm = .metaEval` the
    "source" is a meta block and `s0` the session at its `#(`. -/
structure Ext (bm : Mode) (s0 s : Sess) : Prop where
  ext0 : Ext0 s0 s
  chain : Chain s0 bm s.m.ctx s.nested
  /-- the pending flows added since `s0` only refer to code added since `s0` -/
  flows : ∃ nw, s.flows = nw ++ s0.flows ∧ Orgs s0.m.code.length nw
  wf : WF s.m
  fs : s.m.ctx.fsLen ≤ s.flows.length
  dmapLen : s0.dmap.length = s0.m.code.length

def SOK (bm : Mode) (s0 : Sess) : SRes → Prop
  | .ok s => Ext bm s0 s
  | .err _ s => Ext0 s0 s
  | _ => True

theorem sok_iff {bm : Mode} {s0 : Sess} {r : SRes} : SOK bm s0 r ↔ r.All (Ext bm s0) (Ext0 s0) (fun _ => True) := by
  cases r <;> exact Iff.rfl

theorem Ext0.transport {s0 s s' : Sess} (h : Ext0 s0 s)
    (code : s'.m.code.take s0.m.code.length = s.m.code.take s0.m.code.length)
    (dmap : s'.dmap.take s0.dmap.length = s.dmap.take s0.dmap.length)
    (dict : hidOf s'.m.dict s0.m.dict.length = hidOf s.m.dict s0.m.dict.length ∧ s0.m.dict.length ≤ s'.m.dict.length)
    (undo : s'.constUndo = s.constUndo)
    (heap : s'.m.heap.take s0.m.heap.length = s.m.heap.take s0.m.heap.length)
    (ds : hidOf s'.m.ds s0.m.ds.length = hidOf s.m.ds s0.m.ds.length)
    (rs : hidOf s'.m.rs s0.m.rs.length = hidOf s.m.rs s0.m.rs.length)
    (loops : hidOf s'.m.loops s0.m.loops.length = hidOf s.m.loops s0.m.loops.length)
    (special : hidOf s'.m.special s0.m.special.length = hidOf s.m.special s0.m.special.length)
    (flows : hidOf s'.flows s0.flows.length = hidOf s.flows s0.flows.length)
    (nested : hidOf s'.nested s0.nested.length = hidOf s.nested s0.nested.length)
    (log : (s.m.log = none → s'.m.log = none) ∧ ∀ ℓ, s.m.log = some ℓ → ∃ seg, s'.m.log = some (seg ++ ℓ))
    (limits : s'.m.insnLimit = s.m.insnLimit ∧ s'.m.stackLimit = s.m.stackLimit ∧ s'.m.heapLimit = s.m.heapLimit) :
    Ext0 s0 s' where
  code := by rw [code]; exact h.code
  dmap := by rw [dmap]; exact h.dmap
  dictLen := dict.2
  undo := by obtain ⟨us, a, b⟩ := h.undo; exact ⟨us, by rw [undo]; exact a, by rw [dict.1]; exact b⟩
  heap := by rw [heap]; exact h.heap
  ds := by rw [ds]; exact h.ds
  rs := by rw [rs]; exact h.rs
  loops := by rw [loops]; exact h.loops
  special := by rw [special]; exact h.special
  flows := by rw [flows]; exact h.flows
  nested := by rw [nested]; exact h.nested
  nolog := fun h0 => log.1 (h.nolog h0)
  log := fun ℓ h0 => by
    obtain ⟨seg, e⟩ := h.log ℓ h0
    obtain ⟨seg2, e2⟩ := log.2 _ e
    exact ⟨seg2 ++ seg, by rw [e2, List.append_assoc]⟩
  limits := ⟨by rw [limits.1, h.limits.1], by rw [limits.2.1, h.limits.2.1], by rw [limits.2.2, h.limits.2.2]⟩

theorem log_same {a b : Option (List RStep)} (e : b = a) :
    (a = none → b = none) ∧ ∀ ℓ, a = some ℓ → ∃ seg, b = some (seg ++ ℓ) :=
  ⟨fun h => by rw [e, h], fun ℓ h => ⟨[], by rw [e, h]; rfl⟩⟩

theorem Ext0.codeLen {s0 s : Sess} (h : Ext0 s0 s) : s0.m.code.length ≤ s.m.code.length := take_len_le h.code rfl
theorem Ext0.dmapLen {s0 s : Sess} (h : Ext0 s0 s) : s0.dmap.length ≤ s.dmap.length := take_len_le h.dmap rfl
theorem Ext0.heapLen {s0 s : Sess} (h : Ext0 s0 s) : s0.m.heap.length ≤ s.m.heap.length := take_len_le h.heap rfl
theorem Ext0.dsLen {s0 s : Sess} (h : Ext0 s0 s) : s0.m.ds.length ≤ s.m.ds.length := hidOf_len_le h.ds rfl
theorem Ext0.rsLen {s0 s : Sess} (h : Ext0 s0 s) : s0.m.rs.length ≤ s.m.rs.length := hidOf_len_le h.rs rfl
theorem Ext0.lsLen {s0 s : Sess} (h : Ext0 s0 s) : s0.m.loops.length ≤ s.m.loops.length := hidOf_len_le h.loops rfl
theorem Ext0.ssLen {s0 s : Sess} (h : Ext0 s0 s) : s0.m.special.length ≤ s.m.special.length := hidOf_len_le h.special rfl
theorem Ext0.fsLen {s0 s : Sess} (h : Ext0 s0 s) : s0.flows.length ≤ s.flows.length := hidOf_len_le h.flows rfl

theorem ext_lastTok {bm : Mode} {s0 s : Sess} (t : Nat) (h : Ext bm s0 s) : Ext bm s0 { s with lastTok := t } :=
  ⟨h.ext0.transport rfl rfl ⟨rfl, h.ext0.dictLen⟩ rfl rfl rfl rfl rfl rfl rfl rfl (log_same rfl) ⟨rfl, rfl, rfl⟩,
   h.chain, h.flows, h.wf, h.fs, h.dmapLen⟩

theorem ext0_lastTok {s0 s : Sess} (t : Nat) (h : Ext0 s0 s) : Ext0 s0 { s with lastTok := t } :=
  h.transport rfl rfl ⟨rfl, h.dictLen⟩ rfl rfl rfl rfl rfl rfl rfl rfl (log_same rfl) ⟨rfl, rfl, rfl⟩

theorem ext_emit {bm : Mode} {s0 s : Sess} (op : Op) (h : Ext bm s0 s) : Ext bm s0 (s.emit op) := by
  refine ⟨h.ext0.transport ?_ ?_ ⟨rfl, h.ext0.dictLen⟩ rfl rfl rfl rfl rfl rfl rfl rfl (log_same rfl) ⟨rfl, rfl, rfl⟩,
    h.chain, h.flows, ⟨h.wf.ds, h.wf.rs, h.wf.ls, h.wf.ss⟩, h.fs, h.dmapLen⟩
  · simp only [Sess.emit]; rw [List.take_append_of_le_length h.ext0.codeLen]
  · simp only [Sess.emit]; rw [List.take_append_of_le_length h.ext0.dmapLen]

theorem ext_contextOpen {bm : Mode} {s0 s : Sess} (h : Ext bm s0 s) : Ext bm s0 (s.contextOpen .metaEval) := by
  have hn := h.chain.nested
  refine ⟨h.ext0.transport rfl rfl ⟨rfl, h.ext0.dictLen⟩ rfl rfl rfl rfl rfl rfl rfl ?_ (log_same rfl) ⟨rfl, rfl, rfl⟩,
    ?_, h.flows, ?_, ?_, h.dmapLen⟩
  · simp only [Sess.contextOpen]; rw [hidOf_cons _ _ _ (by omega)]
  · simp only [Sess.contextOpen]
    refine .inner s.m.ctx _ s.nested h.chain ⟨h.ext0.codeLen, h.ext0.fsLen, h.ext0.dictLen, h.ext0.rsLen, h.ext0.lsLen,
      h.ext0.ssLen, fun _ => ?_⟩ rfl ⟨?_, h.wf.rs, h.wf.ls, h.wf.ss, h.fs⟩
    · simp only; split
      · rename_i hm; exact h.chain.ok.ds hm
      · exact h.ext0.dsLen
    · simp only; split
      · exact Nat.le_refl _
      · exact h.wf.ds
  · simp only [Sess.contextOpen]
    refine ⟨?_, Nat.le_refl _, Nat.le_refl _, Nat.le_refl _⟩
    simp only; split
    · exact h.wf.ds
    · exact Nat.le_refl _
  · simp only [Sess.contextOpen]; exact Nat.le_refl _

/-- whatever a meta block executes stays above its context's marks, which lie above everything `s0` had -/
theorem ext0_sealed {s0 s : Sess} (h : Ext0 s0 s) (ok : CtxOK s0 s.m.ctx) (hm : s.m.ctx.mode = .metaEval) {m' : Mach}
    (sl : Sealed s.m m') : Ext0 s0 { s with m := m' } := by
  obtain ⟨_, hds, hrs, hls, hss⟩ := sl.below
  exact h.transport (by rw [sl.codeMeta hm]) rfl ⟨by rw [sl.dict], by rw [sl.dict]; exact h.dictLen⟩ rfl
    (by rw [sl.heapMeta hm]) (hidOf_congr _ hds (ok.ds hm)) (hidOf_congr _ hrs ok.rs) (hidOf_congr _ hls ok.ls)
    (hidOf_congr _ hss ok.ss) rfl rfl ⟨sl.nolog, sl.log⟩ sl.limits

theorem ext_sealed {bm : Mode} {s0 s : Sess} (h : Ext bm s0 s) (hm : s.m.ctx.mode = .metaEval) (m' : Mach)
    (sl : Sealed s.m m') : Ext bm s0 { s with m := m' } :=
  ⟨ext0_sealed h.ext0 h.chain.ok hm sl, h.chain.setIp m'.ctx sl.below.1, h.flows, sl.wf,
    (marks_fields sl.below.1).2.2.2.1 ▸ h.fs, h.dmapLen⟩

theorem ext_run {bm : Mode} {s0 s : Sess} (h : Ext bm s0 s) (hm : s.m.ctx.mode = .metaEval) (fuel : Nat) (o : Outcome Unit) (m' : Mach)
    (hr : Mach.run nativeProg fuel s.m = some (o, m')) : Ext bm s0 { s with m := m' } :=
  ext_sealed h hm m' (run_sealed nativeProg fuel s.m (o, m') h.wf hr)

theorem ext_popData {bm : Mode} {s0 s : Sess} (h : Ext bm s0 s) (hm : s.m.ctx.mode = .metaEval) : Ext bm s0 { s with m := s.m.popData.2 } := by
  obtain ⟨seg, r⟩ := popData_rev s.m
  exact ext_sealed h hm _ (r.sealed h.wf)

theorem sok_runS {bm : Mode} {s0 s : Sess} (h : Ext bm s0 s) (hm : s.m.ctx.mode = .metaEval) (fuel : Nat) :
    (s.runS fuel).All (Ext bm s0) (Ext0 s0) (fun _ => True) :=
  runS_all s fuel (fun m' hr => ext_run h hm fuel _ m' hr) (fun _ m' hr => (ext_run h hm fuel _ m' hr).ext0)
    (fun _ _ _ _ => trivial)

theorem sok_metaRun {bm : Mode} {s0 s : Sess} (h : Ext bm s0 s) (fuel : Nat) :
    (s.metaRun fuel).All (Ext bm s0) (Ext0 s0) (fun _ => True) :=
  metaRun_all s fuel h (fun hm => sok_runS h hm fuel)

theorem sok_andRun {bm : Mode} {s0 : Sess} (fuel : Nat) (r : SRes) (h : SOK bm s0 r) : SOK bm s0 (andRun fuel r) :=
  sok_iff.mpr ((sok_iff.mp h).andRun (fun _ h => sok_metaRun h fuel))

/-- the compiler state at the mark, as seen from `s` (its dictionary part is the *current* old part:
    constants defined before the mark may have been replaced, which the compiler never does) -/
def baseC (s0 s : Sess) : CState :=
  { code := s0.m.code, dmap := s0.dmap, flows := [], dict := hidOf s.m.dict s0.m.dict.length,
    heapLen := s0.m.heap.length, heapLimit := s.m.heapLimit, hiddenFlows := s.toC.hiddenFlows, lastTok := 0 }

theorem hidden_eq (s : Sess) : s.hidden = hidOf s.flows s.m.ctx.fsLen := rfl

theorem pre_toC {bm : Mode} {s0 s : Sess} (h : Ext bm s0 s) : Pre (baseC s0 s) s.toC ∧ Orgs s0.m.code.length s.toC.flows := by
  refine ⟨⟨h.ext0.code, h.ext0.dmap, ⟨s.m.dict.take (s.m.dict.length - s0.m.dict.length), by simp [baseC, Sess.toC, hidOf]⟩,
    h.ext0.heapLen, h.ext0.codeLen, h.ext0.dmapLen, ⟨rfl, rfl⟩⟩, ?_⟩
  obtain ⟨nw, hf, ho⟩ := h.flows
  have hfs := h.chain.ok.fs
  intro f hfm
  simp only [Sess.toC, Sess.visible, Sess.visLen, hf] at hfm
  have hl : (nw ++ s0.flows).length - s.m.ctx.fsLen ≤ nw.length := by simp; omega
  rw [List.take_append_of_le_length hl] at hfm
  exact ho f (List.mem_of_mem_take hfm)

theorem ext0_fromC {bm : Mode} {s0 s : Sess} (h : Ext bm s0 s) (c' : CState) (hp : Pre (baseC s0 s) c') : Ext0 s0 (s.fromC c') := by
  obtain ⟨d, hd⟩ := hp.dict
  have hlen : (hidOf s.m.dict s0.m.dict.length).length = s0.m.dict.length := hidOf_length _ _ h.ext0.dictLen
  refine h.ext0.transport (by rw [h.ext0.code]; exact hp.code) (by rw [h.ext0.dmap]; exact hp.dmap) ⟨?_, ?_⟩ rfl ?_ rfl rfl rfl rfl ?_ rfl
    (log_same rfl) ⟨rfl, rfl, rfl⟩
  · show hidOf c'.dict _ = _
    rw [hd]; simp only [baseC]
    have := hidOf_append_length d (hidOf s.m.dict s0.m.dict.length)
    rw [hlen] at this; exact this
  · show _ ≤ c'.dict.length
    rw [hd]; simp only [baseC, List.length_append, hlen]; omega
  · show (s.m.heap ++ _).take _ = _
    rw [List.take_append_of_le_length h.ext0.heapLen]
  · show hidOf (c'.flows ++ s.hidden) _ = _
    rw [hidden_eq s, hidOf_append _ _ _ (by rw [hidOf_length _ _ h.fs]; exact h.chain.ok.fs),
      hidOf_hidOf _ _ _ h.chain.ok.fs]

theorem ext_fromC {bm : Mode} {s0 s : Sess} (h : Ext bm s0 s) (c' : CState) (hp : Pre (baseC s0 s) c')
    (ho : Orgs s0.m.code.length c'.flows) : Ext bm s0 (s.fromC c') := by
  refine ⟨ext0_fromC h c' hp, h.chain, ?_, ⟨h.wf.ds, h.wf.rs, h.wf.ls, h.wf.ss⟩, ?_, h.dmapLen⟩
  · obtain ⟨nw, hf, hon⟩ := h.flows
    have hfs := h.chain.ok.fs
    refine ⟨c'.flows ++ nw.drop s.visLen, ?_, ?_⟩
    · show c'.flows ++ s.hidden = _
      simp only [Sess.hidden, hf, List.append_assoc]
      congr 1
      have hl : s.visLen ≤ nw.length := by simp [Sess.visLen, hf]; omega
      rw [List.drop_append_of_le_length hl]
    · intro f hfm
      rcases List.mem_append.mp hfm with a | a
      · exact ho f a
      · exact hon f (List.mem_of_mem_drop a)
  · show s.m.ctx.fsLen ≤ (c'.flows ++ s.hidden).length
    rw [hidden_eq s]; simp only [List.length_append, hidOf_length _ _ h.fs]; omega

theorem sok_ofC {bm : Mode} {s0 s : Sess} (h : Ext bm s0 s) (r : CRes CState) (hg : Good (baseC s0 s) r) : SOK bm s0 (s.ofC r) := by
  cases r with
  | ok c' => exact ext_fromC h c' hg.1 hg.2
  | err e c' => exact ext0_lastTok _ (ext0_fromC h c' hg)
  | unsupported u => trivial

theorem undoConst_set {d : List (String × Entry)} {i : Nat} {nm : String} {old v : Cell}
    (hget : d[i]? = some (nm, .const old)) : undoConst (d.set i (nm, .const v)) (d.length - 1 - i, old) = d := by
  have hi : i < d.length := by
    rcases Nat.lt_or_ge i d.length with h | h
    · exact h
    · rw [List.getElem?_eq_none h] at hget; cases hget
  have e : d.length - 1 - (d.length - 1 - i) = i := by omega
  have hlt : d.length - 1 - i < d.length := by omega
  simp only [undoConst, List.length_set, e, hlt, if_true, List.getElem?_set_self hi, List.set_set]
  rw [List.getElem?_eq_getElem hi] at hget
  rw [← Option.some.inj hget, List.set_getElem_self]

theorem sok_constDef {bm : Mode} {s0 s : Sess} (h : Ext bm s0 s) (name : String) : SOK bm s0 (s.constDef name) := by
  by_cases hm : s.m.ctx.mode = .metaEval
  · have hp := ext_popData h hm
    rw [constDef_eq s name hm]
    revert hp
    rcases s.m.popData with ⟨o, m⟩
    intro hp
    cases o with
    | ok v =>
      dsimp only at hp ⊢
      obtain ⟨us, hcu, hfold⟩ := hp.ext0.undo
      have hdl : s0.m.dict.length ≤ m.dict.length := hp.ext0.dictLen
      simp only at hcu hfold
      have ext : ∀ d u, s0.m.dict.length ≤ d.length →
          (∃ us, u = us ++ s0.constUndo ∧ us.foldl undoOld (hidOf d s0.m.dict.length) = s0.m.dict) →
          Ext bm s0 { s with m := { m with dict := d }, constUndo := u } := fun d u hl hu =>
        have e := hp.ext0
        ⟨⟨e.code, e.dmap, hl, hu, e.heap, e.ds, e.rs, e.loops, e.special, e.flows, e.nested, e.nolog, e.log, e.limits⟩, hp.chain, hp.flows, ⟨hp.wf.ds, hp.wf.rs, hp.wf.ls, hp.wf.ss⟩, hp.fs, hp.dmapLen⟩
      cases hcs : constSet name v m.dict s.constUndo with
      | none => exact hp.ext0
      | some du =>
        obtain ⟨d, u⟩ := du
        rcases constSet_some hcs with ⟨i, old, hget, rfl, rfl⟩ | ⟨rfl, rfl⟩
        · refine ext _ _ (by simpa using hdl) ⟨(m.dict.length - 1 - i, old) :: us, by simp [hcu], ?_⟩
          rw [List.foldl_cons, ← undoConst_old _ _ _ (by simpa using hdl), undoConst_set hget]
          exact hfold
        · refine ext _ _ (by simp; omega) ⟨us, hcu, ?_⟩
          rw [hidOf_cons _ _ _ hdl]; exact hfold
    | err e => exact hp.ext0
    | panic p => trivial
  · rw [constDef_outside s name hm]
    exact h.ext0

theorem swapRemove_spec (r : List α) (i : Nat) (hi : i < r.length) :
    (swapRemove r i).take i = r.take i ∧ (swapRemove r i).length + 1 = r.length := by
  unfold swapRemove
  cases hl : r.getLast? with
  | none => simp at hl; subst hl; simp at hi
  | some l =>
    have hm : min i (r.length - 1) = i := by omega
    simp only
    split
    · rw [List.dropLast_eq_take, List.take_take, hm]; simp; omega
    · rw [List.dropLast_eq_take, List.take_take, List.length_set, hm, List.take_set_of_le (Nat.le_refl i)]; simp; omega

/-- the purge loop of `context_close` (dictionary in Rust order, oldest first) leaves the entries below `i` alone and keeps, of
    those from `i` on, constants only -/
theorem purgeLoop_spec (f : Nat) : ∀ (i : Nat) (r : List (String × Entry)), r.length ≤ i + f →
    ∃ cs, purgeLoop f i r = r.take i ++ cs ∧ ∀ e ∈ cs, ∃ c, e.2 = .const c := by
  induction f with
  | zero => intro i r hl; exact ⟨[], by rw [purgeLoop, List.take_of_length_le (Nat.add_zero i ▸ hl), List.append_nil], nofun⟩
  | succ f ih =>
    intro i r hl
    simp only [purgeLoop]
    split
    · rename_i nm c hget
      obtain ⟨cs, e, hc⟩ := ih (i + 1) r (by omega)
      refine ⟨(nm, .const c) :: cs, by rw [e, List.take_add_one, hget]; simp, fun x hx => ?_⟩
      rcases List.mem_cons.mp hx with rfl | hx
      · exact ⟨c, rfl⟩
      · exact hc x hx
    · rename_i e2 hne hget
      obtain ⟨h1, h2⟩ := swapRemove_spec r i (List.getElem?_eq_some_iff.mp hget).1
      obtain ⟨cs, e, hc⟩ := ih i (swapRemove r i) (by omega)
      exact ⟨cs, by rw [e, h1], hc⟩
    · rename_i hnone
      have hi : r.length ≤ i := by
        rcases Nat.lt_or_ge i r.length with h | h
        · rw [List.getElem?_eq_getElem h] at hnone; cases hnone
        · exact h
      exact ⟨[], by rw [List.take_of_length_le hi, List.append_nil], nofun⟩

/-- `context_close`'s purge: what was there below the mark stays, above it only constants remain -/
theorem purge_spec (d : List (String × Entry)) (n : Nat) :
    ∃ cs, purge d n = cs ++ hidOf d n ∧ ∀ e ∈ cs, ∃ c, e.2 = .const c := by
  obtain ⟨cs, e, hc⟩ := purgeLoop_spec d.length n d.reverse (by simp)
  refine ⟨cs.reverse, ?_, fun x hx => hc x (List.mem_reverse.mp hx)⟩
  rw [purge, e, List.reverse_append, ← hidOf_reverse, List.reverse_reverse]

theorem purge_old (d : List (String × Entry)) (n k : Nat) (hk : k ≤ n) (hl : k ≤ d.length) :
    hidOf (purge d n) k = hidOf d k ∧ k ≤ (purge d n).length := by
  obtain ⟨cs, e, _⟩ := purge_spec d n
  have hlen : k ≤ (hidOf d n).length := by simp only [hidOf, List.length_drop]; omega
  rw [e, hidOf_append _ _ _ hlen, hidOf_hidOf _ _ _ hk]
  exact ⟨rfl, by rw [List.length_append]; omega⟩

/-- `#)` cuts code and debug map, purges and drains above the marks of the block's context, which lie above everything
    `s0` had (`s`: the session after the block's last run, `rest`: the saved contexts without the block's) -/
theorem ext0_closed {s0 s : Sess} (h : Ext0 s0 s) (ok : CtxOK s0 s.m.ctx) (hm : s.m.ctx.mode = .metaEval) (w : WF s.m)
    (dm : s0.dmap.length = s0.m.code.length) (prev : Ctx) (rest : List Ctx)
    (hn : hidOf rest s0.nested.length = hidOf s.nested s0.nested.length) :
    Ext0 s0 (({ s with nested := rest } : Sess).closed prev) := by
  obtain ⟨k, hk, _, hds, hcode, hdmap⟩ := closed_ds ({ s with nested := rest } : Sess) prev
  simp only [Sess.excess] at hk hds hcode hdmap
  obtain ⟨pa, pb⟩ := purge_old s.m.dict s.m.ctx.diLen s0.m.dict.length ok.di h.dictLen
  have hcs := ok.cs
  refine h.transport ?_ ?_ ⟨pa, pb⟩ rfl rfl ?_ rfl rfl rfl rfl hn (log_same rfl) ⟨rfl, rfl, rfl⟩
  · rw [hcode, List.take_append_of_le_length (by have := h.codeLen; simp only [List.length_take]; omega), List.take_take]
    congr 1; omega
  · rw [hdmap, List.take_append_of_le_length (by have := h.dmapLen; simp only [List.length_take]; omega), List.take_take]
    congr 1; omega
  · rw [hds]
    exact hidOf_drop _ _ _ (by have := ok.ds hm; have := w.ds; omega)

/-- closing a meta block opened since `s0` keeps the session an extension.  `hbm` excludes the one block this does not
    hold for, the block `s0` itself opened (base mode `.metaEval`, exactly one context saved above `s0`'s): closing that
    one ends the extension — Proofs/SessionBlock.lean says what it gives. -/
theorem sok_contextClose_meta {bm : Mode} {s0 s : Sess} (h : Ext bm s0 s)
    (hbm : bm ≠ .metaEval ∨ s.nested.length ≠ s0.nested.length + 1) (hm : s.m.ctx.mode = .metaEval) (fuel : Nat) :
    SOK bm s0 (s.contextClose fuel) := by
  have hch := h.chain
  generalize hN : s.nested = l at hch
  cases hch with
  | base _ ok hb _ =>
    rcases hbm with hbm | hbm
    · exact absurd (hb ▸ hm) hbm
    · exact absurd (by rw [hN]; simp) hbm
  | inner prev _ rest hprev ok' hmeta le =>
    rw [contextClose_meta s prev rest fuel hN hm]
    have hn : hidOf rest s0.nested.length = hidOf s.nested s0.nested.length := by
      rw [hN, hidOf_cons _ _ _ (by have := hprev.nested.2; omega)]
    have key : ∀ o m', Mach.run nativeProg fuel s.m = some (o, m') → Sealed s.m m' ∧ Ext0 s0 { s with nested := rest, m := m' } :=
      fun o m' hr =>
        have sl := run_sealed nativeProg fuel s.m (o, m') h.wf hr
        ⟨sl, (ext0_sealed h.ext0 ok' hm sl).transport rfl rfl ⟨rfl, by rw [sl.dict]; exact h.ext0.dictLen⟩ rfl rfl rfl rfl rfl rfl rfl
          hn (log_same rfl) ⟨rfl, rfl, rfl⟩⟩
    refine sok_iff.mpr ((runS_all (P := fun x => ∃ m', Sealed s.m m' ∧ x = { s with nested := rest, m := m' })
      { s with nested := rest } fuel
      (fun m' hr => ⟨m', (key _ m' hr).1, rfl⟩) (fun _ m' hr => (key _ m' hr).2) (fun _ _ _ _ => trivial)).bind ?_)
    rintro _ ⟨m', sl, rfl⟩
    -- the enclosing context comes back: its marks lie below those of the block's
    have hmarks := sl.below.1
    obtain ⟨e1, _, e2, e5, e3, e4, _⟩ := marks_fields hmarks
    have w' := sl.wf
    obtain ⟨k, hk, _, hds, _, _⟩ := closed_ds ({ s with nested := rest, m := m' } : Sess) prev
    refine ⟨ext0_closed (s := { s with m := m' }) (ext0_sealed h.ext0 ok' hm sl) (ok'.ofMarks hmarks) (sl.mode.trans hm) w'
        h.dmapLen prev rest hn, hprev, h.flows,
      ⟨?_, Nat.le_trans le.rs (e2 ▸ w'.rs), Nat.le_trans le.ls (e3 ▸ w'.ls), Nat.le_trans le.ss (e4 ▸ w'.ss)⟩,
      Nat.le_trans le.fs h.fs, h.dmapLen⟩
    show prev.dsLen ≤ (Sess.closed _ prev).m.ds.length
    simp only [Sess.excess] at hk hds
    rw [hds, List.length_drop]
    have := le.ds; have := w'.ds
    omega

theorem sok_nestedEnd {bm : Mode} {s0 s : Sess} (h : Ext bm s0 s)
    (hbm : bm ≠ .metaEval ∨ s.nested.length ≠ s0.nested.length + 1) (fuel : Nat) : SOK bm s0 (s.nestedEnd fuel) :=
  sok_iff.mpr (nestedEnd_all s fuel h.ext0 (fun hm _ => sok_iff.mp (sok_contextClose_meta h hbm hm fuel)))

theorem sok_act {bm : Mode} {s0 s : Sess} (h : Ext bm s0 s) (fuel : Nat) (k : Kind)
    (hbm : k = .closeMeta → bm ≠ .metaEval ∨ s.nested.length ≠ s0.nested.length + 1) : SOK bm s0 (act fuel s k) := by
  obtain ⟨hp, ho⟩ := pre_toC h
  cases k with
  | emit op => exact ext_emit op h
  | openMeta => exact ext_contextOpen h
  | closeMeta => exact sok_nestedEnd h (hbm rfl) fuel
  | const name => exact sok_constDef h name
  | noName => exact h.ext0
  | late _ | named _ _ | imm _ | word _ => exact sok_ofC h _ (cact_good _ _ _ hp ho)

theorem sok_tokens {bm : Mode} (hbm : bm ≠ .metaEval) (fuel depth : Nat) (toks : List Tok) (idx : Nat) (s0 s : Sess)
    (h : Ext bm s0 s) : SOK bm s0 (tokens fuel depth toks idx s) :=
  sok_iff.mpr (tokens_all fuel depth (fun k _ h => sok_iff.mp (sok_act h fuel k (fun _ => .inl hbm)))
    (fun _ h => sok_metaRun h fuel) (fun i _ h => ext_lastTok i h) (fun _ h => h.ext0) toks idx s h)

theorem sok_build1 {bm : Mode} {s0 s : Sess} (h : Ext bm s0 s) (hbm : bm ≠ .metaEval) (fuel : Nat) (toks : List Tok) :
    SOK bm s0 (s.build1 fuel toks) := by
  unfold Sess.build1
  exact sok_iff.mpr ((sok_metaRun h fuel).bind (fun s1 h1 => sok_iff.mp (sok_tokens hbm fuel _ toks 0 s0 s1 h1)))

theorem build1_ok_base {s s2 : Sess} {mode : Mode} (fuel : Nat) (toks : List Tok) (hmode : mode ≠ .metaEval)
    (h : (s.contextOpen mode).build1 fuel toks = .ok s2) (e : Ext mode s s2) :
    s2.m.ctx.mode = mode ∧ s2.nested = s.m.ctx :: s.nested := by
  unfold Sess.build1 at h
  rw [metaRun_noop _ fuel (show (s.contextOpen mode).m.ctx.mode ≠ .metaEval from hmode)] at h
  simp only at h
  have hd := tokens_ok_depth fuel _ toks 0 _ _ h
  exact e.chain.base_of_len (by rw [hd]; simp [Sess.contextOpen])

/-- a session one can submit a source to -/
structure Idle (s : Sess) : Prop where
  wf : WF s.m
  fs : s.m.ctx.fsLen ≤ s.flows.length
  dmap : s.dmap.length = s.m.code.length

theorem ext_open_any {s : Sess} (i : Idle s) (mode : Mode) (hmode : mode = .metaEval → s.m.ctx.mode ≠ .metaEval) :
    Ext mode s (s.contextOpen mode) := by
  refine ⟨⟨by simp [Sess.contextOpen], by simp [Sess.contextOpen], Nat.le_refl _, ⟨[], rfl, by simp [hidOf, Sess.contextOpen]⟩,
      by simp [Sess.contextOpen], hidOf_all _, hidOf_all _, hidOf_all _, hidOf_all _, hidOf_all _,
      by simp only [Sess.contextOpen]; rw [hidOf_cons _ _ _ (Nat.le_refl _)]; exact hidOf_all _,
      fun h => h, fun ℓ h => ⟨[], by simpa [Sess.contextOpen] using h⟩, ⟨rfl, rfl, rfl⟩⟩, ?_, ⟨[], rfl, by intro f hf; cases hf⟩, ?_, Nat.le_refl _, i.dmap⟩
  · refine .base _ ⟨Nat.le_refl _, Nat.le_refl _, Nat.le_refl _, Nat.le_refl _, Nat.le_refl _, Nat.le_refl _, fun h => ?_⟩ rfl
      ⟨rfl, rfl, rfl, rfl, rfl, rfl, rfl, fun h => ?_⟩
    · simp only [Sess.contextOpen]
      rw [if_neg (fun e => hmode h (e.trans h))]; exact Nat.le_refl _
    · simp only [Sess.contextOpen] at h ⊢
      rw [if_neg (fun e => h e.symm)]
  · simp only [Sess.contextOpen]
    refine ⟨?_, Nat.le_refl _, Nat.le_refl _, Nat.le_refl _⟩
    simp only; split
    · exact i.wf.ds
    · exact Nat.le_refl _

theorem ext_open {s : Sess} (i : Idle s) (mode : Mode) (hmode : mode ≠ .metaEval) : Ext mode s (s.contextOpen mode) :=
  ext_open_any i mode (fun e => absurd e hmode)

/-- a source compiled to the end: the build stayed an extension of `s`, ended at the source's base level, and
    `context_close` put the context of before back -/
theorem compile_done {fuel : Nat} {toks : List Tok} {s s' : Sess} (idle : Idle s)
    (h : s.buildSource fuel .compile toks = .done s') :
    ∃ s2, (s.contextOpen .compile).build1 fuel toks = .ok s2 ∧ Ext .compile s s2 ∧ s2.nested = s.m.ctx :: s.nested ∧
      s' = { s2 with constUndo := s2.constUndo.drop (s2.constUndo.length - s.constUndo.length), nested := s.nested,
                     m := { forgetBuildLog s.m s2.m with ctx := s.m.ctx } } := by
  obtain ⟨s2, hg, hc⟩ := buildSource_done h
  have hb := sok_build1 (ext_open idle .compile (by decide)) (by decide) fuel toks
  rw [hg] at hb
  obtain ⟨hmode, hnest⟩ := build1_ok_base fuel toks (by decide) hg hb
  simp only [Sess.contextClose, hnest, show (forgetBuildLog s.m s2.m).ctx.mode = .compile from hmode] at hc
  cases hc
  exact ⟨s2, hg, hb, hnest, rfl⟩

end Xeh.Session
