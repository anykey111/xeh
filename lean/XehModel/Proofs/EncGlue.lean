/- Strings ↔ bytes ↔ bits, ASCII output of the encoders, the word-level glue. -/
import XehModel.Proofs.EncBase32
import XehModel.Proofs.EncBase64
import XehModel.Proofs.EncZ85
import XehModel.Proofs.ProgLemmas

namespace Xeh.Enc
open Xeh Prog

/- the bits of a byte are its eight binary digits, so the two directions are the digit round trip -/

theorem byteBits_eq (n : Nat) : byteBits n = (toDigits 2 8 n).map (· == 1) := by
  simp [byteBits, toDigits, toDigitsLE, Nat.div_div_eq_div_mul]

theorem bitsNat_eq (bs : List Bool) (acc : Nat) :
    bitsNat bs acc = acc * 2 ^ bs.length + ofDigits 2 (bs.map bitVal) := by
  induction bs generalizing acc with
  | nil => simp [bitsNat, ofDigits, ofDigitsLE]
  | cons b bs ih =>
    rw [bitsNat, ih, List.map_cons, ← List.singleton_append (l := bs.map bitVal), ofDigits_append,
      List.length_cons, Nat.pow_succ, List.length_map,
      show ofDigits 2 [bitVal b] = bitVal b by simp [ofDigits, ofDigitsLE],
      Nat.add_mul, Nat.add_assoc, Nat.mul_comm 2 acc, Nat.mul_assoc, Nat.mul_comm 2]

theorem bitsNat_zero (bs : List Bool) : bitsNat bs 0 = ofDigits 2 (bs.map bitVal) := by
  rw [bitsNat_eq, Nat.zero_mul, Nat.zero_add]

theorem bitVal_lt (bs : List Bool) : ∀ d ∈ bs.map bitVal, d < 2 := by
  intro d hd
  obtain ⟨b, -, rfl⟩ := List.mem_map.1 hd
  cases b <;> decide

theorem bitsNat_byteBits (n : Nat) (h : n < 256) : bitsNat (byteBits n) 0 = n := by
  rw [bitsNat_zero, byteBits_eq, List.map_map,
    List.map_congr_left (g := id) fun d hd => ?_, List.map_id, ofDigits_toDigits 2 8 n h]
  have := toDigits_lt 2 8 n (by decide) d hd
  obtain rfl | rfl : d = 0 ∨ d = 1 := by omega
  all_goals rfl

theorem byteBits_bitsNat (bs : List Bool) (h : bs.length = 8) : byteBits (bitsNat bs 0) = bs := by
  have := toDigits_ofDigits 2 _ (bitVal_lt bs)
  rw [List.length_map, h] at this
  rw [bitsNat_zero, byteBits_eq, this, List.map_map,
    List.map_congr_left (g := id) fun b _ => by cases b <;> rfl, List.map_id]

theorem bitsNat8_lt (bs : List Bool) (h : bs.length = 8) : bitsNat bs 0 < 256 := by
  have := ofDigits_lt 2 _ (bitVal_lt bs)
  rwa [List.length_map, h, ← bitsNat_zero] at this

theorem bitsToBytes_append (c rest : List Bool) (hc : c.length = 8) :
    bitsToBytes (c ++ rest) = bitsNat c 0 :: bitsToBytes rest := by
  match c, hc with
  | [_, _, _, _, _, _, _, _], _ => exact bitsToBytes.eq_1 ..

theorem byteBits_length (n : Nat) : (byteBits n).length = 8 := rfl

theorem bitsToBytes_bytesToBits (l : List Nat) (h : ∀ x ∈ l, x < 256) : bitsToBytes (bytesToBits l) = l := by
  induction l with
  | nil => rfl
  | cons a t ih =>
    obtain ⟨ha, ht⟩ := List.forall_mem_cons.1 h
    rw [bytesToBits, List.flatMap_cons, bitsToBytes_append _ _ (byteBits_length a), bitsNat_byteBits a ha,
      ← bytesToBits, ih ht]

theorem bytesToBits_length (l : List Nat) : (bytesToBits l).length = 8 * l.length := by
  induction l with
  | nil => rfl
  | cons a t ih =>
    rw [bytesToBits, List.flatMap_cons, List.length_append, ← bytesToBits, ih, byteBits_length,
      List.length_cons, Nat.mul_succ, Nat.add_comm]

theorem bytestr_bytesToBits (l : List Nat) (h : ∀ x ∈ l, x < 256) : bytestr (bytesToBits l) = some l := by
  simp [bytestr, bytesToBits_length, bitsToBytes_bytesToBits l h]

theorem bytesToBits_bitsToBytes (bits : List Bool) (h : bits.length % 8 = 0) :
    bytesToBits (bitsToBytes bits) = bits ∧ ∀ x ∈ bitsToBytes bits, x < 256 := by
  induction bits using chunk_induction 8 (by omega) with
  | nil => exact ⟨rfl, by simp [bitsToBytes]⟩
  | tail t h0 h8 => omega
  | step c rest hc ih =>
    obtain ⟨ih1, ih2⟩ := ih (by rw [List.length_append, hc] at h; omega)
    rw [bitsToBytes_append c rest hc]
    exact ⟨by rw [bytesToBits, List.flatMap_cons, byteBits_bitsNat c hc, ← bytesToBits, ih1],
      List.forall_mem_cons.2 ⟨bitsNat8_lt c hc, ih2⟩⟩

theorem bytestr_some (bits : List Bool) (l : List Nat) (h : bytestr bits = some l) :
    bytesToBits l = bits ∧ ∀ x ∈ l, x < 256 := by
  unfold bytestr at h
  split at h
  · rename_i hm
    simp at h; subst h
    exact bytesToBits_bitsToBytes bits hm
  · simp at h

/-! ### text: the encoders write ASCII, so the string's UTF-8 bytes are the letters themselves -/

theorem utf8Char_ascii (n : Nat) (h : n < 128) : utf8Char (Char.ofNat n) = [n] := by
  have : (Char.ofNat n).toNat = n := by
    simp [Char.ofNat, Char.toNat, Char.ofNatAux, Nat.isValidChar, show n < 55296 by omega]
  simp [utf8Char, this, h]

theorem utf8Bytes_asciiStr (l : List Nat) (h : ∀ x ∈ l, x < 128) : utf8Bytes (asciiStr l) = l := by
  induction l with
  | nil => rfl
  | cons a t ih =>
    have := ih (fun x hx => h x (by simp [hx]))
    simp only [utf8Bytes, asciiStr, List.map_cons, List.flatMap_cons] at this ⊢
    rw [utf8Char_ascii a (h a (by simp)), this]; rfl

theorem Dec.ofOption_ne_panic (o : Option (List Nat)) (p : String) : Dec.ofOption o ≠ .panic p := by
  cases o <;> simp [Dec.ofOption]

structure Pair (enc : List Nat → List Nat) (dec : List Nat → Dec) : Prop where
  rt : ∀ bs, (∀ x ∈ bs, x < 256) → dec (enc bs) = .bytes bs
  ascii : ∀ bs, ∀ x ∈ enc bs, x < 128

theorem pair_base32 : Pair base32Enc base32Dec :=
  ⟨fun bs h => by simp [base32Enc, base32Dec, b32_roundtrip_gen rfc_ok true (fun _ => rfc_pad) bs h, Dec.ofOption],
   b32Encode_ascii rfc_ok true⟩

theorem pair_base32hex : Pair base32hexEnc base32hexDec :=
  ⟨fun bs h => by simp [base32hexEnc, base32hexDec, b32_roundtrip_gen crock_ok false (by simp) bs h, Dec.ofOption],
   b32Encode_ascii crock_ok false⟩

theorem pair_base64 : Pair b64Encode base64Dec :=
  ⟨fun bs h => by simp [base64Dec, b64_roundtrip_fn bs h, Dec.ofOption], b64Encode_ascii⟩

theorem pair_zero85 : Pair z85Encode z85Guarded :=
  ⟨fun bs h => z85Guarded_of_bytes _ _ (z85_roundtrip_fn bs h), z85Encode_ascii⟩

theorem run_encodeWord (enc : List Nat → List Nat) (c : Cell) (s : List Cell) (h : Nat) (hh : h ≤ s.length) :
    runStack (encodeWord enc) h (c :: s) =
      match bitstrConcat c with
      | .ok bits =>
        match bytestr bits with
        | some bytes => .ok (.str (asciiStr (enc bytes)) :: s)
        | none => .err .toBytestrError
      | .err e => .err e
      | .panic p => .panic p := by
  unfold encodeWord
  rw [runStack_pop_cons _ _ _ _ hh]
  cases hc : bitstrConcat c with
  | ok bits =>
    simp only [ofOutcome]
    cases hb : bytestr bits <;> simp
  | err e => simp [ofOutcome]
  | panic p => simp [ofOutcome]

theorem run_intoBitstr (c : Cell) (s : List Cell) (h : Nat) (hh : h ≤ s.length) :
    runStack wordIntoBitstr h (c :: s) =
      match bitstrConcat c with
      | .ok bits => .ok (.bitstr bits :: s)
      | .err e => .err e
      | .panic p => .panic p := by
  unfold wordIntoBitstr
  rw [runStack_pop_cons _ _ _ _ hh]
  cases hc : bitstrConcat c <;> simp [ofOutcome]

theorem run_decodeWord_str (dec : List Nat → Dec) (c : Cell) (t : List Char) (hc : c.toStr = .ok t)
    (s : List Cell) (h : Nat) (hh : h ≤ s.length) :
    runStack (decodeWord dec) h (c :: s) =
      match dec (utf8Bytes t) with
      | .bytes l => .ok (.bitstr (bytesToBits l) :: s)
      | .invalid => .ok (.nil :: s)
      | .panic p => .panic p := by
  have hn : (c :: s).length - h ≠ 0 := by simp; omega
  rw [decodeWord, runStack_depth, if_neg hn, runStack_pop_cons _ _ _ _ hh, hc]
  cases hd : dec (utf8Bytes t) <;> simp [hd]

end Xeh.Enc
