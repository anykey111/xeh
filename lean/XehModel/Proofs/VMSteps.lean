/-
Runs of `n` successful steps (`C02.stepN`, and `C02.rnextN` backwards): they compose, whatever every successful step
preserves holds at their end, and the facts about one step that the properties about such runs share.
-/
import XehModel.Proofs.VMSeal
import XehModel.Proofs.VMMeter

namespace Xeh.C02
open Xeh Xeh.Mach

variable (np : String → Option Prog)

def stepN : Nat → Mach → Option Mach
  | 0, m => some m
  | n + 1, m =>
    match step np m with
    | (.ok (), m') => stepN n m'
    | _ => none

def rnextN : Nat → Mach → Option Mach
  | 0, m => some m
  | k + 1, m =>
    match rnext m with
    | (.ok (), m') => rnextN k m'
    | _ => none

end Xeh.C02

namespace Xeh.Mach
open Xeh.C02

theorem stepN_add (np : String → Option Prog) : ∀ (a b : Nat) (m m1 m2 : Mach),
    stepN np a m = some m1 → stepN np b m1 = some m2 → stepN np (a + b) m = some m2 := by
  intro a
  induction a with
  | zero => intro b m m1 m2 h1 h2; simp [stepN] at h1; subst h1; simpa using h2
  | succ a ih =>
    intro b m m1 m2 h1 h2
    rw [Nat.add_right_comm]
    simp only [stepN] at h1 ⊢
    split at h1
    · rename_i m' hs; exact ih b m' m1 m2 h1 h2
    · cases h1

/-- beyond the end of the code `fetch_and_run` panics -/
theorem step_ok_running (np : String → Option Prog) (m m' : Mach) (o : Outcome Unit) (h : step np m = (o, m'))
    (ho : ∀ p, o ≠ .panic p) (hl : m.insnLimit = none) : m.isRunning = true := by
  unfold step at h
  simp only [meterIncrease, hl] at h
  split at h
  · rename_i hn
    cases h
    exact absurd rfl (ho _)
  all_goals (rename_i hop; simp only [isRunning]; have := List.getElem?_eq_some_iff.mp hop |>.1 ; simpa using this)

theorem stepN_running (np : String → Option Prog) : ∀ (n : Nat) (m mv : Mach), m.insnLimit = none → stepN np n m = some mv →
    ∀ j mj, j < n → stepN np j m = some mj → mj.isRunning = true := by
  intro n
  induction n with
  | zero => intro m mv _ _ j mj hj; omega
  | succ n ih =>
    intro m mv hl h j mj hj hmj
    simp only [stepN] at h
    split at h
    · rename_i m1 hs
      cases j with
      | zero => cases hmj; exact step_ok_running np _ m1 (.ok ()) hs (fun p hp => by cases hp) hl
      | succ j =>
        simp only [stepN, hs] at hmj
        have hl1 : m1.insnLimit = none := by
          have := (step_mle np m).limit; rw [hs] at this; rw [this]; exact hl
        exact ih m1 mv hl1 h j mj (by omega) hmj
    · cases h

theorem failing_step_keeps_ip (np : String → Option Prog) (m : Mach) (w : WF m) (h : (step np m).1 ≠ .ok ()) :
    (step np m).2.ctx.ip = m.ctx.ip := by
  have sh := step_shape np m w
  cases sh with
  | early hc _ _ _ _ _ =>
    have := congrArg Core.ctx hc
    simp only [core] at this
    rw [this]
  | exec m0 p s =>
    have h0 : m0.ctx = m.ctx := by have := congrArg Core.ctx p.core; simpa [core] using this
    cases s with
    | fail seg mp r e ne => rw [e, r.ctx, h0]
    | done seg mp n r e => rw [e] at h; exact absurd rfl h

theorem stepN_ind (np : String → Option Prog) {P : Mach → Prop} (hstep : ∀ m m', P m → step np m = (.ok (), m') → P m') :
    ∀ (n : Nat) (m mv : Mach), P m → stepN np n m = some mv → P mv := by
  intro n
  induction n with
  | zero => intro m mv hp h; cases h; exact hp
  | succ n ih =>
    intro m mv hp h
    simp only [stepN] at h
    split at h
    · rename_i m1 hs; exact ih m1 mv (hstep m m1 hp hs) h
    · cases h

theorem stepN_sealed (np : String → Option Prog) (n : Nat) (m mv : Mach) (w : WF m) (h : stepN np n m = some mv) :
    WF mv ∧ mv.code.length = m.code.length :=
  stepN_ind np (P := fun x => WF x ∧ x.code.length = m.code.length)
    (fun a a1 ha hs => by have := step_sealed np a ha.1; rw [hs] at this; exact ⟨this.wf, this.codeLen.trans ha.2⟩)
    n m mv ⟨w, rfl⟩ h

/-- after a run of successful steps a failing step leaves the ip on the instruction that failed: the entry of the debug map
    under the ip of the machine it leaves is that instruction's -/
theorem stepN_fail_ip (np : String → Option Prog) {n : Nat} {m mv mv' : Mach} {o : Outcome Unit}
    (h : stepN np n m = some mv) (hs : step np mv = (o, mv')) (ho : o ≠ .ok ()) (w : WF m) : mv'.ctx.ip = mv.ctx.ip := by
  have := failing_step_keeps_ip np mv (stepN_sealed np n m mv w h).1 (by rw [hs]; exact ho)
  rwa [hs] at this

theorem stepN_nolimit (np : String → Option Prog) (n : Nat) (m mv : Mach) (hl : m.insnLimit = none)
    (h : stepN np n m = some mv) : mv.insnLimit = none :=
  stepN_ind np (P := fun x => x.insnLimit = none)
    (fun a a1 ha hs => by have := (step_mle np a).limit; rw [hs] at this; exact this.trans ha) n m mv hl h

end Xeh.Mach
