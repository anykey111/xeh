/-
Byte lengths (`utf8Len`); every sub-scanner splits its input (`taken ++ rest = input`), a non-eof step consumes at least
one char, and running the lexer tiles the text.
-/
import XehModel.Model.Lex

namespace Xeh.Lex

theorem utf8Size_pos (c : Char) : 1 ≤ utf8Size c := by
  unfold utf8Size; simp only []; split
  · omega
  · split
    · omega
    · split <;> omega

theorem utf8Len_nil : utf8Len [] = 0 := rfl

theorem utf8Len_cons (c : Char) (l : List Char) : utf8Len (c :: l) = utf8Size c + utf8Len l := by
  simp [utf8Len]

theorem utf8Len_append (a b : List Char) : utf8Len (a ++ b) = utf8Len a + utf8Len b := by
  simp [utf8Len]

theorem utf8Len_pos {l : List Char} (h : l ≠ []) : 1 ≤ utf8Len l := by
  cases l with
  | nil => exact absurd rfl h
  | cons c t => rw [utf8Len_cons]; have := utf8Size_pos c; omega

theorem utf8Len_ge_length (l : List Char) : l.length ≤ utf8Len l := by
  induction l with
  | nil => simp [utf8Len]
  | cons c t ih => rw [utf8Len_cons]; have := utf8Size_pos c; simp; omega

theorem scanStr_split (l : List Char) : (scanStr l).2.1 ++ (scanStr l).2.2 = l := by
  fun_induction scanStr l <;> simp_all

theorem scanBits_split (l : List Char) : (scanBits l).2.1 ++ (scanBits l).2.2 = l := by
  fun_induction scanBits l <;> simp_all

theorem scanMl_split (l : List Char) : (scanMl l).2.1 ++ (scanMl l).2.2 = l := by
  fun_induction scanMl l <;> simp_all

theorem numHead_split {c : Char} {r : List Char} {np : Option Char} {tmp taken r0 : List Char}
    (h : numHead c r = (np, tmp, taken, r0)) : taken ++ r0 = c :: r ∧ taken ≠ [] := by
  unfold numHead at h
  split at h
  · cases h; simp
  · split at h
    · split at h
      · split at h <;> (cases h; simp)
      · cases h; simp
    · cases h; simp

theorem radixPrefix_split {np : Option Char} {tmp r : List Char} {radix : Option Nat}
    {tmp1 takenP r1 : List Char} (h : radixPrefix np tmp r = (radix, tmp1, takenP, r1)) :
    takenP ++ r1 = r := by
  unfold radixPrefix at h
  split at h
  · split at h <;> (cases h; simp)
  · cases h; simp

theorem span_split (p : Char → Bool) (l : List Char) : (spanP p l).1 ++ (spanP p l).2 = l := by
  fun_induction spanP p l <;> simp_all

/-- what a step that took `taken` may answer: a word, blank or comment token carries exactly that text -/
inductive TokRes (taken : List Char) : Except LexErr Tok → Prop
  | word : TokRes taken (.ok (.word taken))
  | ws : TokRes taken (.ok (.ws taken))
  | comment : TokRes taken (.ok (.comment taken))
  | lit (c : Cell) : TokRes taken (.ok (.lit c))
  | real (s : List Char) : TokRes taken (.ok (.realLit s))
  | err (e : LexErr) : TokRes taken (.error e)

/-- a step on non-empty input: it takes a non-empty prefix and never answers `eof` -/
structure TokStep (l : List Char) (s : Step) : Prop where
  split : s.taken ++ s.rest = l
  ne : s.taken ≠ []
  res : TokRes s.taken s.res

theorem TokRes.text {res : Except LexErr Tok} {taken : List Char} (h : TokRes taken res) :
    (∀ s, res = .ok (.word s) → s = taken) ∧ (∀ s, res = .ok (.ws s) → s = taken) ∧
    (∀ s, res = .ok (.comment s) → s = taken) ∧ res ≠ .ok .eof := by
  cases h <;> simp <;> exact fun _ h => h.symm

theorem numDecide_ok {d : Char} {radix : Option Nat} {tmp1 body : List Char} {t : Tok}
    (h : numDecide d radix tmp1 body = .ok t) :
    (∃ i, t = .lit (.int i)) ∨ (∃ s, t = .realLit s) := by
  unfold numDecide at h
  simp only [] at h
  split at h
  · split at h
    · simp at h
    · split at h
      · right; exact ⟨_, by simpa using h.symm⟩
      · simp at h
  · split at h
    · left; exact ⟨_, by simpa using h.symm⟩
    · simp at h

theorem scanWord_tokStep (pos : Nat) (c : Char) (r : List Char) : TokStep (c :: r) (scanWord pos c r) := by
  unfold scanWord
  rcases h1 : numHead c r with ⟨np, tmp0, taken0, r0⟩
  simp only []
  rcases h2 : radixPrefix np tmp0 r0 with ⟨radix, tmp1, takenP, r1⟩
  simp only []
  rcases h3 : spanP (fun c => !isWs c) r1 with ⟨body, r2⟩
  simp only []
  obtain ⟨e1, n1⟩ := numHead_split h1
  have key : taken0 ++ takenP ++ body ++ r2 = c :: r := by
    have := span_split (fun c => !isWs c) r1
    rw [h3] at this
    rw [List.append_assoc, this, List.append_assoc, radixPrefix_split h2, e1]
  have kne : taken0 ++ takenP ++ body ≠ [] :=
    List.append_ne_nil_of_left_ne_nil (List.append_ne_nil_of_left_ne_nil n1 _) _
  cases np with
  | none =>
    simp only []
    by_cases hl : (taken0 ++ takenP ++ body == ['\\']) = true
    · rw [if_pos hl]
      have h4 := span_split (fun c => c != '\n') r2
      rcases h5 : spanP (fun c => c != '\n') r2 with ⟨line, r3⟩
      rw [h5] at h4
      simp only [] at h4 ⊢
      exact ⟨by rw [List.append_assoc, h4, key], List.append_ne_nil_of_left_ne_nil kne _, .comment⟩
    · rw [if_neg hl]
      by_cases hm : (taken0 ++ takenP ++ body == ['\\', '(']) = true
      · rw [if_pos hm]
        have h4 := scanMl_split r2
        rcases h5 : scanMl r2 with ⟨closed, t, r3⟩
        rw [h5] at h4
        simp only [] at h4 ⊢
        have : taken0 ++ takenP ++ body ++ t ++ r3 = c :: r := by rw [List.append_assoc, h4, key]
        cases closed
        · exact ⟨this, List.append_ne_nil_of_left_ne_nil kne _, .err _⟩
        · exact ⟨this, List.append_ne_nil_of_left_ne_nil kne _, .comment⟩
      · rw [if_neg hm]
        exact ⟨key, kne, .word⟩
  | some d =>
    simp only []
    cases hd : numDecide d radix tmp1 body with
    | error k => exact ⟨key, kne, .err _⟩
    | ok t =>
      refine ⟨key, kne, ?_⟩
      rcases numDecide_ok hd with ⟨i, rfl⟩ | ⟨s, rfl⟩
      · exact .lit _
      · exact .real _

theorem scanTok_quote (pos : Nat) (c : Char) (r : List Char) (h : c = '"' ∨ c = '“') :
    scanTok pos c r =
      let taken := c :: (scanStr r).2.1
      let endPos := pos + utf8Len taken
      ⟨match (scanStr r).1 with
        | .closed v true => .ok (.lit (.str v))
        | .closed _ false => .error ⟨.expectWs, pos, endPos⟩
        | .eof false => .error ⟨.unterminatedStr, endPos, endPos⟩
        | .eof true => .error ⟨.unterminatedStr, endPos - 1, endPos⟩
        | .badEscape c2 => .error ⟨.escapeSeq, endPos - utf8Size c2 - 1, endPos⟩,
       taken, (scanStr r).2.2⟩ := by
  have hc : (c == '"' || c == '“') = true := by rcases h with rfl | rfl <;> rfl
  unfold scanTok
  rw [if_pos hc]
  rcases scanStr r with ⟨e, t, r'⟩
  rcases e with ⟨v, _ | _⟩ | ⟨_ | _⟩ | c2 <;> rfl

theorem scanTok_bar (pos : Nat) (r : List Char) :
    scanTok pos '|' r =
      let endPos := pos + utf8Len ('|' :: (scanBits r).2.1)
      let total := pos + utf8Len ('|' :: r)
      ⟨match (scanBits r).1 with
        | .closed bits => .ok (.lit (.bitstr bits))
        | .eof => .error ⟨.unterminatedBitstr, endPos, total⟩
        | .bad b => .error ⟨.parseBitstr, endPos - utf8Size b, total⟩,
       '|' :: (scanBits r).2.1, (scanBits r).2.2⟩ := by
  unfold scanTok
  rw [if_neg (by decide), if_pos (by decide)]
  rcases scanBits r with ⟨e, t, r'⟩
  cases e <;> rfl

theorem scanTok_word (pos : Nat) (c : Char) (r : List Char) (h1 : c ≠ '"') (h2 : c ≠ '“') (h3 : c ≠ '|') :
    scanTok pos c r = scanWord pos c r := by
  unfold scanTok; simp [h1, h2, h3]

theorem scanTok_tokStep (pos : Nat) (c : Char) (r : List Char) : TokStep (c :: r) (scanTok pos c r) := by
  by_cases hq : c = '"' ∨ c = '“'
  · rw [scanTok_quote pos c r hq]
    refine ⟨by simp [scanStr_split], by simp, ?_⟩
    rcases (scanStr r).1 with ⟨v, _ | _⟩ | ⟨_ | _⟩ | c2
    · exact .err _
    · exact .lit _
    · exact .err _
    · exact .err _
    · exact .err _
  · by_cases hb : c = '|'
    · subst hb
      rw [scanTok_bar]
      refine ⟨by simp [scanBits_split], by simp, ?_⟩
      rcases (scanBits r).1 with bits | _ | b
      · exact .lit _
      · exact .err _
      · exact .err _
    · rw [scanTok_word pos c r (fun h => hq (.inl h)) (fun h => hq (.inr h)) hb]
      exact scanWord_tokStep pos c r

theorem scan_nonws_head (pos : Nat) (c : Char) (r : List Char) (hc : isWs c = false) :
    scan pos (c :: r) = scanTok pos c r := by
  unfold scan; simp [spanP, hc]

/-- `scan` on non-empty input: blanks or one token -/
theorem scan_tokStep (pos : Nat) {l : List Char} (hl : l ≠ []) : TokStep l (scan pos l) := by
  have hw := span_split isWs l
  unfold scan
  split
  · rename_i heq
    exact ⟨by rw [heq] at hw; exact hw, by simp, .ws⟩
  · split
    · exact absurd rfl hl
    · exact scanTok_tokStep pos _ _

theorem next_split {lx lx' : Lex} {res : Except LexErr Tok} (h : lx.next = (res, lx')) :
    lx'.last ++ lx'.rest = lx.rest ∧ lx'.startPos = lx.pos ∧ lx'.pos = lx.pos + utf8Len lx'.last := by
  cases h
  refine ⟨?_, rfl, rfl⟩
  by_cases h0 : lx.rest = []
  · rw [h0]; rfl
  · exact (scan_tokStep lx.pos h0).split

theorem next_consumes {lx lx' : Lex} {res : Except LexErr Tok} (h : lx.next = (res, lx'))
    (hne : res ≠ .ok .eof) : lx'.last ≠ [] ∧ lx'.rest.length < lx.rest.length := by
  cases h
  have h0 : lx.rest ≠ [] := fun h0 => hne (by rw [h0]; rfl)
  have hs := scan_tokStep lx.pos h0
  have := congrArg List.length hs.split
  have := List.length_pos_iff.mpr hs.ne
  simp only [List.length_append] at *
  exact ⟨hs.ne, by omega⟩

theorem next_eof {lx lx' : Lex} (h : lx.next = (.ok .eof, lx')) :
    lx.rest = [] ∧ lx'.last = [] ∧ lx'.rest = [] := by
  obtain rfl : lx' = lx.next.2 := by rw [h]
  by_cases h0 : lx.rest = []
  · simp only [Lex.next, h0]; exact ⟨trivial, rfl, rfl⟩
  · exact absurd (congrArg Prod.fst h) (scan_tokStep lx.pos h0).res.text.2.2.2

theorem next_text (lx : Lex) : lx.rest ≠ [] → TokRes lx.next.2.last lx.next.1 :=
  fun h0 => (scan_tokStep lx.pos h0).res

def Item.textOf (it : Item) : List Char := it.text

def tiles : Nat → List Item → Nat → Prop
  | pos, [], e => e = pos
  | pos, it :: r, e => it.lo = pos ∧ it.hi = pos + utf8Len it.text ∧ tiles it.hi r e

def Run.errText (r : Run) : List Char :=
  match r.err with
  | some (_, t, _, _) => t
  | none => []

theorem runFuel_succ_ok (n : Nat) (lx lx' : Lex) (t : Tok) (h : lx.next = (.ok t, lx')) (hne : t ≠ .eof) :
    runFuel (n + 1) lx =
      ⟨⟨t, lx'.last, lx'.startPos, lx'.pos⟩ :: (runFuel n lx').items, (runFuel n lx').err,
        (runFuel n lx').final⟩ := by
  conv => lhs; unfold runFuel
  rw [h]
  cases t with
  | eof => exact absurd rfl hne
  | _ => rfl

theorem runFuel_succ_eof (n : Nat) (lx lx' : Lex) (h : lx.next = (.ok .eof, lx')) :
    runFuel (n + 1) lx = ⟨[], none, lx'⟩ := by
  conv => lhs; unfold runFuel
  rw [h]

def Run.endPos (r : Run) : Nat :=
  match r.err with
  | some (_, _, lo, _) => lo
  | none => r.final.pos

/-- a run loses no text, its ranges are contiguous, and with enough fuel it ends in an error or at the end of the text -/
theorem runFuel_spec (n : Nat) (lx : Lex) :
    ((runFuel n lx).items.map (·.text)).flatten ++ (runFuel n lx).errText ++ (runFuel n lx).final.rest = lx.rest ∧
    tiles lx.pos (runFuel n lx).items (runFuel n lx).endPos ∧
    (∀ e t lo hi, (runFuel n lx).err = some (e, t, lo, hi) → hi = lo + utf8Len t) ∧
    (lx.rest.length < n → (runFuel n lx).err.isSome ∨ (runFuel n lx).final.rest = []) := by
  induction n generalizing lx with
  | zero => simp [runFuel, tiles, Run.endPos, Run.errText]
  | succ n ih =>
    unfold runFuel
    split
    · rename_i lx' heq
      obtain ⟨h1, h2, h3⟩ := next_eof heq
      simp [tiles, Run.endPos, Run.errText, h1, h2, h3, (next_split heq).2.2, utf8Len]
    · rename_i t lx' hne heq
      obtain ⟨hs1, hs2, hs3⟩ := next_split heq
      obtain ⟨i1, i2, i3, i4⟩ := ih lx'
      have hc := (next_consumes heq (by simpa using hne)).2
      simp only [Run.errText, Run.endPos, tiles, List.map_cons, List.flatten_cons, List.append_assoc] at i1 i2 ⊢
      exact ⟨by rw [i1, hs1], ⟨hs2, hs3, by simpa [hs3] using i2⟩, i3, fun h => i4 (by omega)⟩
    · rename_i e lx' heq
      obtain ⟨hs1, hs2, hs3⟩ := next_split heq
      simp [tiles, Run.endPos, Run.errText, hs1, hs2, hs3]
      intro _ t lo hi _ h1 h2 h3
      subst h1 h2 h3; rfl

theorem runFuel_enough (n m : Nat) (lx : Lex) (hn : lx.rest.length < n) (hm : lx.rest.length < m) :
    runFuel n lx = runFuel m lx := by
  induction n generalizing m lx with
  | zero => omega
  | succ n ih =>
    cases m with
    | zero => omega
    | succ m =>
      unfold runFuel
      split
      · rfl
      · rename_i t lx' hne heq
        have hc := (next_consumes heq (by simpa using hne)).2
        rw [ih m lx' (by omega) (by omega)]
      · rfl

theorem nextNonwsFuel_some (n : Nat) (lx : Lex) (hn : lx.rest.length < n) :
    ∃ r, Lex.nextNonwsFuel n lx = some r ∧ ∀ m, lx.rest.length < m → Lex.nextNonwsFuel m lx = some r := by
  induction n generalizing lx with
  | zero => omega
  | succ n ih =>
    have skip : ∀ {t lx'}, lx.next = (.ok t, lx') → t ≠ .eof →
        (∀ k, Lex.nextNonwsFuel (k + 1) lx = Lex.nextNonwsFuel k lx') →
        ∃ r, Lex.nextNonwsFuel n lx' = some r ∧
          ∀ m, lx.rest.length < m → Lex.nextNonwsFuel m lx = some r := by
      intro t lx' heq hne red
      have hc := (next_consumes heq (by simpa using hne)).2
      obtain ⟨r, hr1, hr2⟩ := ih lx' (by omega)
      refine ⟨r, hr1, fun m hm => ?_⟩
      cases m with
      | zero => omega
      | succ m => rw [red m]; exact hr2 m (by omega)
    rw [Lex.nextNonwsFuel]
    split
    · rename_i s lx' heq
      exact skip heq (by simp) fun k => by rw [Lex.nextNonwsFuel, heq]
    · rename_i s lx' heq
      exact skip heq (by simp) fun k => by rw [Lex.nextNonwsFuel, heq]
    · rename_i r h1 h2
      refine ⟨lx.next, rfl, fun m hm => ?_⟩
      cases m with
      | zero => omega
      | succ m =>
        rw [Lex.nextNonwsFuel]
        split
        · exact absurd ‹_› (h1 _ _)
        · exact absurd ‹_› (h2 _ _)
        · rfl

end Xeh.Lex
