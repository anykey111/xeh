/- Z85 round trip (full chunks and the `#` tail scheme); and the glue's guard:
   it rejects exactly the texts on which the crate's decoder panics and nothing the crate decodes
   (`z85Guarded_no_panic`, `z85Guarded_of_bytes`). -/
import XehModel.Proofs.EncAlpha

namespace Xeh.Enc

theorem z85_ok : AlphaOk z85Letters z85Val 85 := ⟨by decide +kernel, by decide⟩

theorem z85Val_inv : ∀ c, c < 256 → ∀ d, z85Val c = some d → z85Letters[d]? = some c := by
  decide +kernel

theorem z85Chunk_length (l : List Nat) : (z85Chunk l).length = 5 := by
  simp [z85Chunk, toDigits_length]

theorem z85Encode_append (c rest : List Nat) (hc : c.length = 4) :
    z85Encode (c ++ rest) = z85Chunk c ++ z85Encode rest := by
  match c, hc with
  | [_, _, _, _], _ => exact z85Encode.eq_1 ..

theorem z85Encode_tail (t : List Nat) (h0 : 0 < t.length) (h4 : t.length < 4) :
    z85Encode t = List.replicate (4 - t.length) 0x23 ++
      (toDigits 85 (t.length + 1) (ofDigits 256 t)).map (alphaAt z85Letters) := by
  rw [z85Encode.eq_3 _ (by rintro _ _ _ _ _ rfl; simp only [List.length_cons] at h4; omega)
    (by rintro rfl; cases h0), z85Chunk, ofDigits_zeros_append, ← List.map_drop]
  rw [show 5 = (4 - t.length) + (t.length + 1) by omega, toDigits_drop]

theorem z85DecChunks_last (c : List Nat) (hc : c.length = 5) (h : c.head? = some 0x23) :
    z85DecChunks c = z85DecTail c := by
  match c, hc with
  | [c0, _, _, _, _], _ =>
    obtain rfl : c0 = 0x23 := by simpa using h
    simp [z85DecChunks]

theorem z85DecChunks_append (c rest bin r : List Nat) (hc : c.length = 5) (h : c.head? ≠ some 0x23)
    (hd : z85DecChunk c = some bin) (hr : z85DecChunks rest = .bytes r) :
    z85DecChunks (c ++ rest) = .bytes (bin ++ r) := by
  match c, hc with
  | [c0, _, _, _, _], _ =>
    have : c0 ≠ 0x23 := by simpa using h
    simp [z85DecChunks, this, hd, hr]

/-- the first letter is not `'#'`, the letter of 84: the number is below `256^r ≤ 84 · 85^r` -/
theorem z85_letters_dec (bs : List Nat) (hr : bs.length ≤ 4) (hb : ∀ x ∈ bs, x < 256) :
    z85DecChunk ((toDigits 85 (bs.length + 1) (ofDigits 256 bs)).map (alphaAt z85Letters)) =
      some (toDigits 256 4 (ofDigits 256 bs)) ∧
    ((toDigits 85 (bs.length + 1) (ofDigits 256 bs)).map (alphaAt z85Letters)).head? ≠ some 0x23 := by
  have hN := ofDigits_lt 256 bs hb
  have hp := (by decide : ∀ r, r ≤ 4 → 256 ^ r ≤ 84 * 85 ^ r) bs.length hr
  have h4 : 256 ^ bs.length ≤ 256 ^ 4 := Nat.pow_le_pow_right (by decide) hr
  have h85 : ofDigits 256 bs < 85 ^ (bs.length + 1) := by rw [Nat.pow_succ]; omega
  constructor
  · simp only [z85DecChunk, z85_ok.vals_toDigits (by decide), ofDigits_toDigits _ _ _ h85]
    exact if_neg (by omega)
  · rw [toDigits_succ, List.map_cons, List.head?_cons]
    intro h
    have hlt : ofDigits 256 bs / 85 ^ bs.length < 84 :=
      Nat.div_lt_of_lt_mul (by rw [Nat.mul_comm]; omega)
    rw [Nat.mod_eq_of_lt (by omega)] at h
    have := z85_ok.val_of_eq (by omega) (Option.some.inj h)
    rw [show z85Val 0x23 = some 84 by decide, Option.some.injEq] at this
    omega

theorem z85Chunk_dec (c : List Nat) (hc : c.length = 4) (hb : ∀ x ∈ c, x < 256) :
    z85DecChunk (z85Chunk c) = some c ∧ (z85Chunk c).head? ≠ some 0x23 := by
  have := z85_letters_dec c (by omega) hb
  rwa [hc, ← hc, toDigits_ofDigits 256 c hb, hc] at this

theorem z85_tail (t : List Nat) (h0 : 0 < t.length) (h4 : t.length < 4) (hb : ∀ x ∈ t, x < 256) :
    z85DecTail (z85Encode t) = .bytes t := by
  obtain ⟨hdec, hhead⟩ := z85_letters_dec t (by omega) hb
  have hN := ofDigits_lt 256 t hb
  have h4' : 256 ^ t.length ≤ 256 ^ 4 := Nat.pow_le_pow_right (by decide) (by omega)
  have htw : ((z85Encode t).takeWhile (· == 0x23)).length = 4 - t.length := by
    rw [z85Encode_tail t h0 h4, List.takeWhile_append_of_pos (by simp),
      takeWhile_head _ _ (fun y hy => by simp; rintro rfl; exact hhead hy)]
    simp
  rw [z85DecTail, htw, z85Encode_tail t h0 h4, List.drop_left' (List.length_replicate ..), hdec]
  simp only
  rw [if_neg (by omega), ofDigits_toDigits _ _ _ (by omega),
    if_neg (by rw [Nat.sub_sub_self (by omega)]; omega)]
  have hd := toDigits_drop 256 (4 - t.length) t.length (ofDigits 256 t)
  rw [Nat.sub_add_cancel (by omega)] at hd
  rw [hd, toDigits_ofDigits 256 t hb]

theorem z85DecChunks_encode (bs : List Nat) (hb : ∀ x ∈ bs, x < 256) :
    z85DecChunks (z85Encode bs) = .bytes bs := by
  induction bs using chunk_induction 4 (by omega) with
  | nil => rfl
  | tail t h0 h4 =>
    rw [z85DecChunks_last _ (by rw [z85Encode_tail t h0 h4]; simp [toDigits_length]; omega)
      (by rw [z85Encode_tail t h0 h4, show 4 - t.length = (3 - t.length) + 1 by omega]; rfl)]
    exact z85_tail t h0 h4 hb
  | step c rest hc ih =>
    obtain ⟨hbc, hbr⟩ := List.forall_mem_append.1 hb
    obtain ⟨hdec, hhead⟩ := z85Chunk_dec c hc hbc
    rw [z85Encode_append c rest hc, z85DecChunks_append _ _ _ _ (z85Chunk_length c) hhead hdec (ih hbr)]

theorem z85Encode_length (bs : List Nat) : (z85Encode bs).length = 5 * ((bs.length + 3) / 4) := by
  induction bs using chunk_induction 4 (by omega) with
  | nil => rfl
  | tail t h0 h4 =>
    rw [z85Encode_tail t h0 h4]
    simp [toDigits_length]; omega
  | step c rest hc ih =>
    rw [z85Encode_append c rest hc]
    simp [z85Chunk_length, ih, hc]; omega

theorem z85Encode_eq_nil : (bs : List Nat) → (z85Encode bs = [] ↔ bs = [])
  | bs => by rw [← List.length_eq_zero_iff, ← List.length_eq_zero_iff, z85Encode_length]; omega

theorem z85Encode_ascii (bs : List Nat) : ∀ x ∈ z85Encode bs, x < 128 := by
  induction bs using chunk_induction 4 (by omega) with
  | nil => simp [z85Encode]
  | tail t h0 h4 =>
    rw [z85Encode_tail t h0 h4]
    exact List.forall_mem_append.2
      ⟨fun x hx => by rw [List.eq_of_mem_replicate hx]; decide, z85_ok.toDigits_ascii (by decide) _ _⟩
  | step c rest hc ih =>
    rw [z85Encode_append c rest hc]
    exact List.forall_mem_append.2 ⟨z85_ok.toDigits_ascii (by decide) _ _, ih⟩

theorem z85_roundtrip_fn (bs : List Nat) (h : ∀ x ∈ bs, x < 256) :
    z85Decode (z85Encode bs) = .bytes bs := by
  rw [z85Decode, if_neg (by rw [z85Encode_length]; omega), z85DecChunks_encode bs h]

theorem z85DecTail_panic (chunk : List Nat) (s : String) (h : z85DecTail chunk = .panic s) :
    4 < (chunk.takeWhile (· == 0x23)).length := by
  simp only [z85DecTail] at h
  split at h
  · cases h
  · split at h
    · assumption
    · split at h <;> cases h

theorem z85DecTail_hashes : z85DecTail [35, 35, 35, 35, 35] = .panic "z85 decode_tail: diff = 5" := by
  decide

theorem take5_reverse_cons (c0 c1 c2 c3 c4 : Nat) (rest : List Nat) (h : 5 ≤ rest.length) :
    (c0 :: c1 :: c2 :: c3 :: c4 :: rest).reverse.take 5 = rest.reverse.take 5 := by
  rw [show (c0 :: c1 :: c2 :: c3 :: c4 :: rest).reverse = rest.reverse ++ [c4, c3, c2, c1, c0] by simp,
    List.take_append_of_le_length (by simpa using h)]

theorem z85DecChunks_panic (data : List Nat) (s : String) (h : z85DecChunks data = .panic s) :
    data.length % 5 = 0 ∧ data.reverse.take 5 = [35, 35, 35, 35, 35] := by
  fun_induction z85DecChunks data with
  | case1 c0 c1 c2 c3 c4 rest hc => -- the last chunk, and it starts with `#`: a tail
    obtain ⟨hr, h0⟩ := hc
    have := all_of_takeWhile_length _ [c0, c1, c2, c3, c4] (z85DecTail_panic _ s h)
    simp at hr this
    simp [hr, this]
  | case2 c0 c1 c2 c3 c4 rest hc hn => simp at h -- the chunk is invalid
  | case3 c0 c1 c2 c3 c4 rest hc bin hb r hr ih => simp at h -- the chunk and the rest decode
  | case4 c0 c1 c2 c3 c4 rest hc bin hb hd ih => -- the chunk decodes, the rest does not: its answer is passed on
    obtain ⟨hl, ht⟩ := ih h
    have hlen : 5 ≤ rest.length := by
      have := congrArg List.length ht
      simp at this; omega
    exact ⟨by simp; omega, by rw [take5_reverse_cons _ _ _ _ _ _ hlen, ht]⟩
  | case5 => simp at h -- no text
  | case6 => simp at h -- fewer than five letters left

theorem z85Guarded_eq (data : List Nat) : z85Guarded data = .invalid ∨
    ¬(data.length % 5 = 0 ∧ data.reverse.take 5 = [35, 35, 35, 35, 35]) ∧
      z85Guarded data = z85DecChunks data := by
  unfold z85Guarded z85Decode
  split
  · exact .inl rfl
  · split
    · exact .inl rfl
    · exact .inr ⟨‹_›, rfl⟩

/-- the guard of `zero85_decode_res` catches every text on which the crate panics … -/
theorem z85Guarded_no_panic (data : List Nat) (s : String) : z85Guarded data ≠ .panic s := by
  rcases z85Guarded_eq data with h | ⟨hg, h⟩ <;> rw [h]
  · simp
  · exact fun hp => hg (z85DecChunks_panic data s hp)

/-- … and nothing that the crate decodes -/
theorem z85DecChunks_hashes (data : List Nat) (hl : data.length % 5 = 0)
    (ht : data.reverse.take 5 = [35, 35, 35, 35, 35]) (l : List Nat) : z85DecChunks data ≠ .bytes l := by
  fun_induction z85DecChunks data generalizing l with
  | case1 c0 c1 c2 c3 c4 rest hc => -- the last chunk, and it starts with `#`: a tail, here of five `#`
    obtain ⟨hr, rfl⟩ := hc
    simp at hr; subst hr
    simp at ht
    obtain ⟨rfl, rfl, rfl, rfl⟩ := ht
    simp [z85DecTail_hashes]
  | case2 c0 c1 c2 c3 c4 rest hc hn => simp -- the chunk is invalid
  | case3 c0 c1 c2 c3 c4 rest hc bin hb r hr ih =>
    -- the chunk and the rest decode: but the rest is not empty and ends in the same five `#`
    have hlen : 5 ≤ rest.length := by
      rcases rest with _ | ⟨x, rest⟩
      · simp at ht; exact absurd ⟨rfl, ht.2.2.2.2⟩ hc
      · simp at hl ⊢; omega
    rw [take5_reverse_cons _ _ _ _ _ _ hlen] at ht
    exact absurd hr (ih (by simp at hl; omega) ht r)
  | case4 c0 c1 c2 c3 c4 rest hc bin hb hd ih => -- the chunk decodes, the rest does not
    cases hx : z85DecChunks rest with
    | bytes r => exact absurd hx (hd r)
    | invalid => simp
    | panic s => simp
  | case5 => simp at ht -- no text
  | case6 => simp -- fewer than five letters left

theorem z85Guarded_of_bytes (data l : List Nat) (h : z85Decode data = .bytes l) :
    z85Guarded data = .bytes l := by
  unfold z85Guarded
  split
  · rename_i hg
    unfold z85Decode at h
    rw [if_neg (by omega)] at h
    exact absurd h (z85DecChunks_hashes data hg.1 hg.2 l)
  · exact h

end Xeh.Enc
