/-
Tie B, bridge theorems (DESIGN §4.2): the denotation (Model/MachineInt.lean) of the Rust leaf functions that
`tools/extract.py` re-translates from /repo/src/*.rs on every run (Generated/Leaf.lean) equals the hand-written
specification (Model/LeafSpec.lean), in both build profiles: so the function neither panics (debug overflow checks
included) nor is ill-typed on those arguments.  One module per group of functions and per table, so that a property is
alarmed by exactly those its theorems rest on (`extra_modules` in tools/cfg/*.py); this module only gathers them.
-/
import XehModel.Proofs.Leaf.Common
import XehModel.Proofs.Leaf.Bits
import XehModel.Proofs.Leaf.Jumps
import XehModel.Proofs.Leaf.Index
import XehModel.Proofs.Leaf.Literals
import XehModel.Proofs.LeafTables
