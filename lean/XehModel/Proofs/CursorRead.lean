/-
A successful read word found room for its result, consumed exactly the bits it asked for, delivered their decoding, and
changed nothing else.
-/
import XehModel.Proofs.CursorLemmas

namespace Xeh.Cur
open Xeh

/-- `ReadSpec` (CursorLemmas) says, word by word, which `n` and which value; it is `False` for words that do not read -/
theorem read_word_ok (s : CurState) (op : POp) (s' : CurState) (hop : op.isRead = true)
    (h : step s op = (s', .ok ())) :
    full { s with ds := s.ds.drop op.arity } = false ∧
    ∃ n v, s.pos + n ≤ s.input.length ∧ ReadSpec s n v op ∧
      s' = { s with pos := s.pos + n, ds := v :: s.ds.drop op.arity } := by
  cases op <;> first | exact Bool.noConfusion hop | skip
  case bits =>
    obtain ⟨c, n, hd, hn, h⟩ := popUsize_ok h
    obtain ⟨hfit, room, v, hv, rfl⟩ := readWith_ok h
    cases hv
    exact ⟨room, n, _, hfit, ⟨c, congrArg List.head? hd, hn, rfl⟩, rfl⟩
  case bytes =>
    obtain ⟨c, m, hd, hn, h⟩ := popUsize_ok h
    split at h
    · exact nomatch h
    · obtain ⟨hfit, room, v, hv, rfl⟩ := readWith_ok h
      cases hv
      exact ⟨room, m * 8, _, hfit, ⟨c, m, congrArg List.head? hd, hn, rfl, rfl⟩, rfl⟩
  case readU k bo =>
    obtain ⟨hfit, room, v, hv, rfl⟩ := readWith_ok h
    obtain ⟨hk, rfl⟩ := (convUnsigned_ok (slice_length hfit)).mp hv
    exact ⟨room, k, _, hfit, ⟨rfl, hk, rfl⟩, rfl⟩
  case readI k bo =>
    obtain ⟨hfit, room, v, hv, rfl⟩ := readWith_ok h
    obtain ⟨hk, rfl⟩ := (convSigned_ok (slice_length hfit)).mp hv
    exact ⟨room, k, _, hfit, ⟨rfl, hk, rfl⟩, rfl⟩
  case readF k bo =>
    obtain ⟨hfit, room, v, hv, rfl⟩ := readWith_ok h
    exact ⟨room, k, _, hfit, ⟨rfl, (convFloat_ok (slice_length hfit)).mp hv⟩, rfl⟩
  case uint =>
    obtain ⟨c, n, hd, hn, h⟩ := popUsize_ok h
    obtain ⟨hfit, room, v, hv, rfl⟩ := readWith_ok h
    obtain ⟨hk, rfl⟩ := (convUnsigned_ok (slice_length hfit)).mp hv
    exact ⟨room, n, _, hfit, ⟨c, congrArg List.head? hd, hn, hk, rfl⟩, rfl⟩
  case int =>
    obtain ⟨c, n, hd, hn, h⟩ := popUsize_ok h
    obtain ⟨hfit, room, v, hv, rfl⟩ := readWith_ok h
    obtain ⟨hk, rfl⟩ := (convSigned_ok (slice_length hfit)).mp hv
    exact ⟨room, n, _, hfit, ⟨c, congrArg List.head? hd, hn, hk, rfl⟩, rfl⟩
  case float =>
    obtain ⟨c, n, hd, hn, h⟩ := popUsize_ok h
    obtain ⟨hfit, room, v, hv, rfl⟩ := readWith_ok h
    exact ⟨room, n, _, hfit, ⟨c, congrArg List.head? hd, hn, (convFloat_ok (slice_length hfit)).mp hv⟩, rfl⟩
  case magic =>
    obtain ⟨c, pat, hd, hp, h⟩ := popBitstr_ok h
    obtain ⟨hfit, room, v, hv, rfl⟩ := readWith_ok h
    split at hv
    · exact nomatch hv
    · rename_i heq
      have heq : slice s pat.length = pat := Decidable.not_not.mp heq
      obtain rfl := (Outcome.ok.inj hv).symm.trans (congrArg Cell.bitstr heq)
      exact ⟨room, pat.length, _, hfit, ⟨c, pat, congrArg List.head? hd, hp, rfl, heq, rfl⟩, rfl⟩
  case nulbytestr =>
    obtain ⟨h8, room, n, hn, hfit, rfl⟩ := nulRead_ok h
    exact ⟨room, n, _, hfit, ⟨h8, hn, rfl⟩, rfl⟩
  case cstr =>
    obtain ⟨h8, room, n, hn, hfit, rfl⟩ := nulRead_ok (mk := fun bs => .str (cstrChars bs)) h
    exact ⟨room, n, _, hfit, ⟨h8, hn, rfl⟩, rfl⟩

end Xeh.Cur
