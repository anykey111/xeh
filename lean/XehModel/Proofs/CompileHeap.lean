/-
C14, heap limit at compile time: of all compiling words only `var` allocates, and it refuses beyond the limit; every
other word leaves the number of cells and the limit alone.  None changes what `var` tests before it allocates (the
count of hidden flows, whether the context is a meta block), so the relation carries these two along.
-/
import XehModel.Proofs.CompileWalk

namespace Xeh.Compile
open Xeh Xeh.Compile.CState

def HL (s s' : CState) : Prop :=
  s'.heapLimit = s.heapLimit ∧ s.heapLen ≤ s'.heapLen ∧ (∀ H, s.heapLimit = some H → s'.heapLen ≤ max H s.heapLen) ∧
  s'.hiddenFlows = s.hiddenFlows ∧ s'.inMeta = s.inMeta

def HR (s : CState) : CRes CState → Prop := CRes.All (HL s) fun _ => HL s

theorem HL.refl (s : CState) : HL s s := ⟨rfl, Nat.le_refl _, fun H _ => by omega, rfl, rfl⟩

theorem HL.trans {a b c : CState} (h1 : HL a b) (h2 : HL b c) : HL a c :=
  ⟨h2.1.trans h1.1, Nat.le_trans h1.2.1 h2.2.1, fun H hH => by
    have x := h1.2.2.1 H hH
    have y := h2.2.2.1 H (by rw [h1.1]; exact hH)
    omega, h2.2.2.2.1.trans h1.2.2.2.1, h2.2.2.2.2.trans h1.2.2.2.2⟩

/-- the four fields no compiling word but `var` touches -/
def Same4 (s s' : CState) : Prop :=
  s'.heapLimit = s.heapLimit ∧ s'.heapLen = s.heapLen ∧ s'.hiddenFlows = s.hiddenFlows ∧ s'.inMeta = s.inMeta

theorem Same4.rfl' {s : CState} : Same4 s s := ⟨rfl, rfl, rfl, rfl⟩

theorem hl_same {s s' : CState} (h1 : s'.heapLimit = s.heapLimit) (h2 : s'.heapLen = s.heapLen)
    (h3 : s'.hiddenFlows = s.hiddenFlows) (h4 : s'.inMeta = s.inMeta) : HL s s' :=
  ⟨h1, by omega, fun H _ => by omega, h3, h4⟩

/-- only `alloc` moves the count, and it is taken below the limit -/
theorem hl_keeps (s0 : CState) : Keeps 0 (fun _ => True) (HL s0) where
  mark _ := Nat.zero_le _
  emit _ _ h := h
  flows _ h := h
  patch _ _ h _ := h
  dict _ h := h
  alloc {s} h hl := ⟨h.1, Nat.le_succ_of_le h.2.1, fun H hH => by
    have := h.2.2.1 H hH
    have := hl H (h.1 ▸ hH)
    show s.heapLen + 1 ≤ _
    omega, h.2.2.2⟩
  tok _ h := h

theorem Kept.hr {s : CState} {r : CRes CState} (h : Kept 0 (fun _ => True) (HL s) r) : HR s r :=
  h.imp (fun _ h => h.j) fun _ _ h => h.1

theorem cact_hr (s : CState) (k : Kind) : HR s (cact s k) :=
  (cact_keeps (hl_keeps s) k (fun _ _ => trivial) (.zero (.refl s))).hr

end Xeh.Compile
