/-
`Did` says what compiling some statements of a block does to the compiler state (their symbolic code appended, their
holes pending on the flow stack), `At` what an item of a block may assume about the state it is compiled in, `Sim` puts
the two together for the block being read, and `BlockOK2` is what the block lemma concludes.  Flow stacks are compared
modulo the locals of the open definition (`setLoc`, `wl`, `LocOK`): the parser keeps them in its state, the compiler
inside the flow stack.
-/
import XehModel.Proofs.FlowHCode
import XehModel.Proofs.ParseAcc

namespace Xeh.Structured
open Xeh Xeh.Mach Xeh.Compile Xeh.Compile.CState

theorem wfs_seqs : ∀ (l : List Stmt) (k r : Bool), WFS (seqs l) k r = true ↔ ∀ x ∈ l, WFS x k r = true
  | [], k, r => by simp [seqs, WFS]
  | [x], k, r => by simp [seqs]
  | x :: y :: t, k, r => by
    have ih := wfs_seqs (y :: t) k r
    simp only [seqs, WFS, Bool.and_eq_true, ih]
    constructor
    · rintro ⟨h1, h2⟩ z hz
      rcases List.mem_cons.mp hz with rfl | hz
      · exact h1
      · exact h2 z hz
    · intro h; exact ⟨h x (by simp), fun z hz => h z (by simp [hz])⟩


theorem wfs_of_acc {f : Nat} {toks : List Tok} {idx : Nat} {p : PState} {top : Bool} {acc : List Stmt} {blk : Block}
    {k r : Bool} (h : parseBlock f toks idx p top acc = some blk) (hw : WFS blk.stmt k r = true) :
    ∀ x ∈ acc, WFS x k r = true := by
  obtain ⟨l, e, m⟩ := parse_acc _ _ _ _ _ _ _ h
  rw [e, wfs_seqs] at hw
  exact fun x hx => hw x (m x hx)


theorem hasLoops_cons (f : Flow) (fl : List Flow) :
    hasLoops (f :: fl) = ((match f with | .beginF _ | .whileF _ | .doF _ _ => true | _ => false) || hasLoops fl) := by
  cases f <;> simp [hasLoops]

theorem hasLoops_append (a b : List Flow) : hasLoops (a ++ b) = (hasLoops a || hasLoops b) := by
  simp [hasLoops, List.any_append]

theorem hasLoops_pend (pc : Nat) (H : HCode) : hasLoops (pend pc H) = false := by
  unfold hasLoops
  rw [List.any_eq_false]
  intro fl hfl
  rcases pend_kinds H pc fl hfl with ⟨p, rfl⟩ | ⟨q, rfl⟩ <;> simp

theorem topFun_append_pend (P F : List Flow) (h : ∀ fl ∈ P, (∃ p, fl = .breakF p) ∨ (∃ q, fl = .caseEndOfF q)) :
    topFun (P ++ F) = topFun F := by
  induction P with
  | nil => rfl
  | cons x r ih =>
    rcases h x (by simp) with ⟨p, rfl⟩ | ⟨q, rfl⟩ <;>
    · simp only [List.cons_append, topFun]; exact ih (fun fl hfl => h fl (by simp [hfl]))

def setLoc (ls : List String) : List Flow → List Flow
  | [] => []
  | .funF ff :: rest => .funF { ff with locals := ls } :: rest
  | f :: rest => f :: setLoc ls rest

/-- the flow stack `F` after the block has declared the locals `ls` (no definition open: nothing to replace) -/
def wl (ls : Option (List String)) (F : List Flow) : List Flow := setLoc (ls.getD []) F

theorem wl_cons (ls : Option (List String)) (f : Flow) (F : List Flow) (hf : ∀ ff, f ≠ .funF ff) :
    wl ls (f :: F) = f :: wl ls F := by
  cases f <;> simp [wl, setLoc] at hf ⊢

theorem wl_pend (ls : Option (List String)) (P F : List Flow)
    (h : ∀ fl ∈ P, (∃ p, fl = .breakF p) ∨ (∃ q, fl = .caseEndOfF q)) : wl ls (P ++ F) = P ++ wl ls F := by
  induction P with
  | nil => rfl
  | cons x r ih =>
    have hx : ∀ ff, x ≠ .funF ff := by rcases h x (by simp) with ⟨p, rfl⟩ | ⟨q, rfl⟩ <;> nofun
    rw [List.cons_append, wl_cons _ _ _ hx, ih fun fl hfl => h fl (by simp [hfl]), List.cons_append]

theorem setLoc_setLoc (l1 l2 : List String) : ∀ F : List Flow, setLoc l2 (setLoc l1 F) = setLoc l2 F
  | [] => rfl
  | f :: rest => by
    cases f <;> simp [setLoc, setLoc_setLoc l1 l2 rest]

theorem wl_wl (l1 l2 : Option (List String)) (F : List Flow) : wl l2 (wl l1 F) = wl l2 F := setLoc_setLoc _ _ F

theorem topFun_setLoc (ls : List String) : ∀ F : List Flow, topFun (setLoc ls F) = (topFun F).map fun ff => { ff with locals := ls }
  | [] => rfl
  | f :: rest => by cases f <;> simp [setLoc, topFun, topFun_setLoc ls rest]

theorem setLoc_none (ls : List String) : ∀ F : List Flow, topFun F = none → setLoc ls F = F
  | [], _ => rfl
  | f :: rest, h => by
    cases f <;> simp [setLoc, topFun] at h ⊢ <;> exact setLoc_none ls rest h

theorem setLoc_self : ∀ (F : List Flow) (ff : FunFlow), topFun F = some ff → setLoc ff.locals F = F
  | [], _, h => by simp [topFun] at h
  | f :: rest, ff, h => by
    cases f <;> simp [setLoc, topFun] at h ⊢
    all_goals first
      | exact setLoc_self rest ff h
      | (subst h; rfl)

theorem setTopFun_eq : ∀ (fl : List Flow) (ff : FunFlow) (l : List String), topFun fl = some ff →
    setTopFun { ff with locals := l } fl = setLoc l fl
  | [], _, _, h => by simp [topFun] at h
  | f :: rest, ff, l, h => by
    cases f <;> simp [setTopFun, setLoc, topFun] at h ⊢
    all_goals first
      | exact setTopFun_eq rest ff l h
      | (subst h; rfl)

def LocOK (ls : Option (List String)) (F : List Flow) : Prop := ls = (topFun F).map (·.locals)

theorem LocOK.wl_self {ls : Option (List String)} {F : List Flow} (h : LocOK ls F) : wl ls F = F := by
  unfold LocOK at h; unfold wl
  cases hf : topFun F with
  | none => exact setLoc_none _ F hf
  | some ff => rw [hf] at h; subst h; exact setLoc_self F ff hf

theorem LocOK.wl {ls ls' : Option (List String)} {F : List Flow} (h : LocOK ls F) (hs : ls'.isSome = ls.isSome) : LocOK ls' (wl ls' F) := by
  unfold LocOK at h ⊢; unfold Structured.wl
  rw [topFun_setLoc]
  cases hf : topFun F with
  | none => rw [hf] at h; subst h; cases ls' <;> simp at hs ⊢
  | some ff => rw [hf] at h; subst h; cases ls' <;> simp at hs ⊢

theorem LocOK.cons {ls : Option (List String)} {F : List Flow} (h : LocOK ls F) (f : Flow) (hf : ∀ ff, f ≠ .funF ff) : LocOK ls (f :: F) := by
  unfold LocOK at h ⊢; rw [topFun_cons f F hf]; exact h

theorem LocOK.pend {ls : Option (List String)} {F : List Flow} (h : LocOK ls F) (P : List Flow)
    (hp : ∀ fl ∈ P, (∃ p, fl = .breakF p) ∨ (∃ q, fl = .caseEndOfF q)) : LocOK ls (P ++ F) := by
  unfold LocOK at h ⊢; rw [topFun_append_pend P F hp]; exact h

theorem LocOK.bind {ls : Option (List String)} {F : List Flow} (h : LocOK ls F) (w : String) :
    ((topFun F).bind fun ff => rposition w ff.locals) = ls.bind fun l => rposition w l := by
  unfold LocOK at h; subst h; cases topFun F <;> rfl

theorem hasLoops_setLoc (ls : List String) : ∀ F : List Flow, hasLoops (setLoc ls F) = hasLoops F
  | [] => rfl
  | f :: rest => by
    cases f <;> simp only [setLoc, hasLoops_cons, hasLoops_setLoc ls rest]

theorem hasLoops_wl (ls : Option (List String)) (F : List Flow) : hasLoops (wl ls F) = hasLoops F := hasLoops_setLoc _ F

structure Match2 (p : PState) (s : CState) : Prop where
  dict : s.dict = p.dict
  heap : s.heapLen = p.heapLen
  lim : s.heapLimit = none
  notMeta : s.inMeta = false

theorem Match2.pc {p : PState} {s : CState} (h : Match2 p s) (pc : Nat) : Match2 { p with pc := pc } s :=
  ⟨h.dict, h.heap, h.lim, h.notMeta⟩

theorem Match2.same {p : PState} {s s' : CState} (h : Match2 p s) (hd : s'.dict = s.dict := by rfl)
    (hh : s'.heapLen = s.heapLen := by rfl) (hl : s'.heapLimit = s.heapLimit := by rfl) (hi : s'.inMeta = s.inMeta := by rfl) :
    Match2 p s' :=
  ⟨hd.trans h.dict, hh.trans h.heap, hl.trans h.lim, hi.trans h.notMeta⟩

/-- the symbolic code of the statements `acc` of a block, newest first -/
def hcL : List Stmt → HCode
  | [] => []
  | x :: acc => hcL acc ++ hcode x

theorem hcL_one (x : Stmt) : hcL [x] = hcode x := List.nil_append _

theorem hcL_append (xs acc : List Stmt) : hcL (xs ++ acc) = hcL acc ++ hcL xs := by
  induction xs with
  | nil => exact (List.append_nil _).symm
  | cons x xs ih => simp only [List.cons_append, hcL, ih, List.append_assoc]

theorem hcode_seqs : ∀ l : List Stmt, hcode (seqs l) = l.flatMap hcode
  | [] => rfl
  | [x] => by simp [seqs]
  | x :: y :: r => by simp [seqs, hcode, hcode_seqs (y :: r)]

theorem hcL_seqs (acc : List Stmt) : hcL [seqs acc.reverse] = hcL acc := by
  show [] ++ hcode (seqs acc.reverse) = _
  rw [hcode_seqs, List.nil_append]
  induction acc with
  | nil => rfl
  | cons x acc ih => simp only [List.reverse_cons, List.flatMap_append, ih, hcL, List.flatMap_cons, List.flatMap_nil, List.append_nil]

/-- `s0` is the compiler's state in front of the statements `acc` (newest first), `s` its state behind them; `p` is the
    parser's state afterwards -/
structure Did (p : PState) (s0 : CState) (acc : List Stmt) (s : CState) : Prop where
  m : Match2 p s
  hidden : s.hiddenFlows = s0.hiddenFlows
  flows : s.flows = pend s0.code.length (hcL acc) ++ wl p.locals s0.flows
  code : s.code = s0.code ++ erase (hcL acc)
  dmap : s.dmap = s0.dmap ++ toks (hcL acc)

theorem Did.refl {p : PState} {s : CState} (m : Match2 p s) (loc : LocOK p.locals s.flows) : Did p s [] s :=
  ⟨m, rfl, loc.wl_self.symm, (List.append_nil _).symm, (List.append_nil _).symm⟩

theorem Did.trans {p p' : PState} {s0 s s1 : CState} {acc xs : List Stmt} (d : Did p s0 acc s) (e : Did p' s xs s1) :
    Did p' s0 (xs ++ acc) s1 where
  m := e.m
  hidden := e.hidden.trans d.hidden
  flows := by
    rw [e.flows, d.flows, d.code, wl_pend _ _ _ (pend_kinds _ _), wl_wl, hcL_append, pend_append, List.length_append, length_erase,
      List.append_assoc]
  code := by rw [e.code, d.code, hcL_append, erase, erase, erase, List.map_append, List.append_assoc]
  dmap := by rw [e.dmap, d.dmap, hcL_append, toks, toks, toks, List.map_append, List.append_assoc]

theorem Did.seqs {p : PState} {s0 s : CState} {acc : List Stmt} (d : Did p s0 acc s) : Did p s0 [seqs acc.reverse] s := by
  have e := hcL_seqs acc
  exact ⟨d.m, d.hidden, e ▸ d.flows, e ▸ d.code, e ▸ d.dmap⟩

theorem Did.opened_code {p : PState} {s0 s : CState} {fo : Flow} {Xo : List Op} {x : Stmt} (d : Did p (opened s0 fo Xo) [x] s) :
    s.code = s0.code ++ (Xo ++ erase (hcode x)) := by
  rw [d.code]; exact List.append_assoc ..

theorem Did.opened_flows {p : PState} {s0 s : CState} {fo : Flow} {Xo : List Op} {x : Stmt} (d : Did p (opened s0 fo Xo) [x] s)
    (hfo : ∀ ff, fo ≠ .funF ff) : s.flows = pend (s0.code.length + Xo.length) (hcode x) ++ fo :: wl p.locals s0.flows := by
  rw [d.flows]; simp only [opened, List.length_append]; exact congrArg _ (wl_cons _ _ _ hfo)

theorem length_hcL : ∀ acc : List Stmt, (hcL acc).length = accSize acc
  | [] => rfl
  | x :: acc => by rw [hcL, List.length_append, length_hcL acc, length_hcode, Nat.add_comm]; rfl

/-- `cur`: the address the parser has for the next opcode (what a definition's name is bound to) -/
structure At (p : PState) (k : Bool) (s : CState) (cur : Nat) : Prop where
  m : Match2 p s
  loc : LocOK p.locals s.flows
  loops : k = true → hasLoops s.flows = true
  len : s.code.length = cur

theorem Did.at {p : PState} {k : Bool} {s0 s : CState} {acc : List Stmt} (d : Did p s0 acc s)
    (loc : LocOK p.locals (wl p.locals s0.flows)) (loops : k = true → hasLoops s0.flows = true) {pc : Nat}
    (len : s0.code.length = pc) : At p k s (pc + accSize acc) where
  m := d.m
  loc := by rw [d.flows]; exact loc.pend _ (pend_kinds _ _)
  loops := fun hk => by rw [d.flows, hasLoops_append, hasLoops_pend, hasLoops_wl, loops hk]; rfl
  len := by rw [d.code, List.length_append, length_erase, length_hcL, len]

/-- that the word takes no name follows from `hi`: `immediate` knows none of the words that do -/
theorem At.imm {p : PState} {k : Bool} {s s' : CState} {cur : Nat} (hA : At p k s cur) {w n : String} {idx : Nat}
    (hloc : (p.locals.bind fun ls => rposition w ls) = none) (hl : p.dict.lookup w = some (.native true n))
    (hi : immediate ({ s with lastTok := idx } : CState) n = .ok s') (rest : List Tok) :
    compileToks (.word w :: rest) idx s = compileToks rest (idx + 1) s' := by
  have hf : ((topFun s.flows).bind fun ff => rposition w ff.locals) = none := (hA.loc.bind w).trans hloc
  have ht : takesName n = false := by
    cases ht : takesName n with
    | false => rfl
    | true =>
      simp only [takesName, Bool.or_eq_true, beq_iff_eq] at ht
      rcases ht with ((((rfl | rfl) | rfl) | rfl) | rfl) | rfl <;> cases hi
  have hl' : s.dict.lookup w = some (.native true n) := hA.m.dict ▸ hl
  simp only [compileToks, hf, hl', ht, hi]
  simp

theorem At.named {p : PState} {k : Bool} {s s' : CState} {cur : Nat} (hA : At p k s cur) {w n name : String} {idx : Nat}
    (hloc : (p.locals.bind fun ls => rposition w ls) = none) (hl : p.dict.lookup w = some (.native true n))
    (hi : withName ({ s with lastTok := idx + 1 } : CState) n name = .ok s') (rest : List Tok) :
    compileToks (.word w :: .word name :: rest) idx s = compileToks rest (idx + 2) s' := by
  have hf : ((topFun s.flows).bind fun ff => rposition w ff.locals) = none := (hA.loc.bind w).trans hloc
  have ht : takesName n = true ∧ (n == "late") = false := by
    unfold withName at hi
    split at hi
    iterate 5 exact ⟨by decide, by decide⟩
    cases hi
  have hl' : s.dict.lookup w = some (.native true n) := hA.m.dict ▸ hl
  simp only [compileToks, hf, hl', ht.1, ht.2, hi]
  simp

def entryOp : Entry → Option Op
  | .const c => some (Compile.loadValueOp c)
  | .var a => some (.load a)
  | .interp false a => some (.call a)
  | .native false n => some (.native n)
  | _ => none

theorem At.word {p : PState} {k : Bool} {s : CState} {cur : Nat} (hA : At p k s cur) {w : String} {e : Entry} {o : Op} {idx : Nat}
    (hloc : (p.locals.bind fun ls => rposition w ls) = none) (hl : p.dict.lookup w = some e) (ho : entryOp e = some o)
    (rest : List Tok) :
    compileToks (.word w :: rest) idx s = compileToks rest (idx + 1) (({ s with lastTok := idx } : CState).emit o) := by
  have hf : ((topFun s.flows).bind fun ff => rposition w ff.locals) = none := (hA.loc.bind w).trans hloc
  have hl' : s.dict.lookup w = some e := hA.m.dict ▸ hl
  cases e with
  | native imm n => cases imm <;> simp only [entryOp, Option.some.injEq, reduceCtorEq] at ho; subst ho; simp only [compileToks, hf, hl', buildWord]
  | interp imm a => cases imm <;> simp only [entryOp, Option.some.injEq, reduceCtorEq] at ho; subst ho; simp only [compileToks, hf, hl', buildWord]
  | _ => simp only [entryOp, Option.some.injEq] at ho; subst ho; simp only [compileToks, hf, hl', buildWord]

theorem At.local {p : PState} {k : Bool} {s : CState} {cur : Nat} (hA : At p k s cur) {w : String} {idx i : Nat}
    (hloc : (p.locals.bind fun ls => rposition w ls) = some i) (rest : List Tok) :
    compileToks (.word w :: rest) idx s = compileToks rest (idx + 1) (({ s with lastTok := idx } : CState).emit (.loadLocal i)) := by
  have hf : ((topFun s.flows).bind fun ff => rposition w ff.locals) = some i := (hA.loc.bind w).trans hloc
  simp only [compileToks, hf]

theorem At.emit {p : PState} {k : Bool} {s : CState} {cur : Nat} (hA : At p k s cur) (t : Nat) (o : Op) :
    Did p s [.op t o] (({ s with lastTok := t } : CState).emit o) :=
  ⟨hA.m.same, rfl, hA.loc.wl_self.symm, rfl, rfl⟩

theorem At.sub {p : PState} {k : Bool} {s : CState} {cur : Nat} (hA : At p k s cur) (t : Nat) (fo : Flow) (Xo : List Op) (hfo : ∀ ff, fo ≠ .funF ff) {k' : Bool}
    (hk : k' = true → hasLoops (fo :: s.flows) = true) :
    At { p with pc := cur + Xo.length } k' (opened { s with lastTok := t } fo Xo) (cur + Xo.length) :=
  ⟨(hA.m.pc _).same, hA.loc.cons _ hfo, hk, by simp [opened, hA.len]⟩

theorem At.loops_cons {p : PState} {k : Bool} {s : CState} {cur : Nat} (hA : At p k s cur) (fo : Flow) : k = true → hasLoops (fo :: s.flows) = true := fun hk => by
  rw [hasLoops_cons, hA.loops hk, Bool.or_true]

/-- `s0` opened the block; `top`: the block is the whole program; `k`: it lies inside a loop -/
structure Sim (p : PState) (top k : Bool) (s0 : CState) (acc : List Stmt) (s : CState) : Prop where
  did : Did p s0 acc s
  loc : LocOK p.locals (wl p.locals s0.flows)
  top : top = true → s0.flows = [] ∧ s0.hiddenFlows = 0
  loops : k = true → hasLoops s0.flows = true
  pc : s0.code.length = p.pc

theorem At.start {p : PState} {top k : Bool} {s : CState} (hA : At p k s p.pc)
    (htop : top = true → s.flows = [] ∧ s.hiddenFlows = 0) : Sim p top k s [] s :=
  ⟨.refl hA.m hA.loc, by rw [hA.loc.wl_self]; exact hA.loc, htop, hA.loops, hA.len⟩

theorem Sim.at {p : PState} {top k : Bool} {s0 s : CState} {acc : List Stmt} (h : Sim p top k s0 acc s) :
    At p k s (p.pc + accSize acc) :=
  h.did.at h.loc h.loops h.pc

theorem Sim.step {p p' : PState} {top k : Bool} {s0 s s1 : CState} {acc xs : List Stmt} (h : Sim p top k s0 acc s)
    (e : Did p' s xs s1) (hpc : p'.pc = p.pc) (his : p'.locals.isSome = p.locals.isSome) : Sim p' top k s0 (xs ++ acc) s1 :=
  ⟨h.did.trans e, wl_wl _ _ _ ▸ h.loc.wl his, h.top, h.loops, h.pc.trans hpc.symm⟩

theorem Sim.top_flows {p : PState} {k : Bool} {s0 s : CState} {acc : List Stmt} (h : Sim p true k s0 acc s)
    (hw : ∀ x ∈ acc, WFS x false false = true) : s.flows = [] ∧ s.hiddenFlows = 0 := by
  have hw' : WFS (seqs acc.reverse) false false = true := (wfs_seqs _ _ _).mpr fun x hx => hw x (List.mem_reverse.mp hx)
  refine ⟨?_, h.did.hidden.trans (h.top rfl).2⟩
  rw [h.did.flows, (h.top rfl).1, ← hcL_seqs]
  exact congrArg (· ++ _) (pend_closed (hcode _) _ (wfs_noArm _ _ hw') (wfs_noBrk _ _ hw'))

/-- `s0` opened the block, `s` is the state in front of `toks` (after the statements read so far), `s'` the state in
    front of the block's terminator -/
structure BlockOK2 (toks : List Tok) (idx : Nat) (p : PState) (blk : Block) (s0 s s' : CState) : Prop where
  did : Did blk.st s0 [blk.stmt] s'
  isSome : blk.st.locals.isSome = p.locals.isSome
  eof : blk.term = .eof → compileToks toks idx s = compileToks [] blk.termIdx s'
  close : blk.term ≠ .eof → ∀ s3, immediate ({ s' with lastTok := blk.termIdx } : CState) (termName blk.term) = .ok s3 →
    compileToks toks idx s = compileToks blk.rest blk.next s3

/-- the induction step in the form every item uses: `s1` is `s` after the statements `xs`; `ih` is the block lemma for what
    follows them -/
theorem Sim.next {toks rest : List Tok} {idx next : Nat} {p p' : PState} {top k : Bool} {blk : Block} {s0 s s1 : CState}
    {acc xs : List Stmt} (h : Sim p top k s0 acc s) (ih : Sim p' top k s0 (xs ++ acc) s1 → ∃ s', BlockOK2 rest next p' blk s0 s1 s')
    (e : Did p' s xs s1) (hpc : p'.pc = p.pc) (his : p'.locals.isSome = p.locals.isSome)
    (hct : compileToks toks idx s = compileToks rest next s1) : ∃ s', BlockOK2 toks idx p blk s0 s s' := by
  obtain ⟨s', r⟩ := ih (h.step e hpc his)
  exact ⟨s', r.did, r.isSome.trans his, fun ht => hct.trans (r.eof ht), fun ht s3 hi => hct.trans (r.close ht s3 hi)⟩

end Xeh.Structured
