/- base32 (RFC 4648 with padding, Crockford without) round trip. -/
import XehModel.Proofs.EncAlpha

namespace Xeh.Enc

structure B32Ok (alpha : List Nat) (tbl : List (Option Nat)) : Prop
    extends AlphaOk alpha (b32Val tbl) 32 where
  ne : 61 ∉ alpha

theorem rfc_ok : B32Ok rfcAlphabet rfcInv := ⟨⟨by decide +kernel, by decide⟩, by decide⟩
theorem crock_ok : B32Ok crockAlphabet crockInv := ⟨⟨by decide +kernel, by decide⟩, by decide⟩
theorem rfc_pad : b32Val rfcInv 61 = some 0 := by decide

theorem vals_pad (tbl : List (Option Nat)) (hp : b32Val tbl 61 = some 0) (k : Nat) :
    vals (b32Val tbl) (List.replicate k 61) = some (zeros k) := by
  rw [vals_eq_some_iff, zeros, List.map_replicate, List.map_replicate, hp]

/-- bytes above `'z'` index the 43-entry table (and any table up to 75 entries) out of range -/
theorem b32Val_big (tbl : List (Option Nat)) (hl : tbl.length ≤ 75) (b : Nat) (hb : 123 ≤ b) :
    b32Val tbl b = none := by
  have hu : upper b = b := if_neg (by omega)
  simp only [b32Val, hu]
  rw [if_neg (by omega), List.getElem?_eq_none (by omega)]; rfl

theorem b32Chunk_length (l : List Nat) : (b32Chunk l).length = 8 := toDigits_length ..

theorem b32Chunk_lt (l : List Nat) : ∀ d ∈ b32Chunk l, d < 32 := toDigits_lt 32 8 _ (by omega)

theorem b32Encode_append (alpha : List Nat) (pad : Bool) (c rest : List Nat) (hc : c.length = 5) :
    b32Encode alpha pad (c ++ rest) = (b32Chunk c).map (alphaAt alpha) ++ b32Encode alpha pad rest := by
  match c, hc with
  | [_, _, _, _, _], _ => exact b32Encode.eq_1 ..

theorem b32Encode_tail (alpha : List Nat) (pad : Bool) (t : List Nat) (h0 : 0 < t.length) (h5 : t.length < 5) :
    b32Encode alpha pad t =
      ((b32Chunk (t ++ zeros (5 - t.length))).take (8 - b32Extra t.length)).map (alphaAt alpha) ++
        List.replicate (if pad then b32Extra t.length else 0) 61 := by
  rw [b32Encode.eq_3 _ _ _ (by rintro _ _ _ _ _ _ rfl; simp only [List.length_cons] at h5; omega)
    (by rintro rfl; cases h0)]
  cases pad <;> simp

theorem b32DecChunks_append (tbl : List (Option Nat)) (c rest v r : List Nat) (hc : c.length = 8)
    (hv : vals (b32Val tbl) c = some v) (hr : b32DecChunks tbl rest = some r) :
    b32DecChunks tbl (c ++ rest) = some (toDigits 256 5 (ofDigits 32 v) ++ r) := by
  match c, hc with
  | [_, _, _, _, _, _, _, _], _ => simp only [List.cons_append, List.nil_append, b32DecChunks, hv, hr]

theorem b32DecChunks_tail (tbl : List (Option Nat)) (t v : List Nat) (h0 : 0 < t.length) (h8 : t.length < 8)
    (hv : vals (b32Val tbl) t = some v) :
    b32DecChunks tbl t = some (toDigits 256 5 (ofDigits 32 (v ++ zeros (8 - t.length)))) := by
  rw [b32DecChunks.eq_3 _ _ (by rintro _ _ _ _ _ _ _ _ _ rfl; simp only [List.length_cons] at h8; omega)
    (by rintro rfl; cases h0), hv]

/-- `8 (5 - r)` zero bits fill the last chunk, and `b32Extra r` digits of five bits fit into them -/
theorem b32Extra_dvd (r : Nat) : 32 ^ b32Extra r ∣ 256 ^ (5 - r) := by
  have h : 5 * b32Extra r ≤ 8 * (5 - r) := by unfold b32Extra; omega
  rw [show 32 = 2 ^ 5 from rfl, show 256 = 2 ^ 8 from rfl, ← Nat.pow_mul, ← Nat.pow_mul]
  exact Nat.pow_dvd_pow 2 h

/-- the digits that `encode` replaces by padding (or cuts off) are zero anyway -/
theorem b32Chunk_tail (t : List Nat) :
    ∃ m, b32Chunk (t ++ zeros (5 - t.length)) =
      toDigits 32 (8 - b32Extra t.length) (ofDigits 256 t * m) ++ zeros (b32Extra t.length) := by
  obtain ⟨m, hm⟩ := b32Extra_dvd t.length
  refine ⟨m, ?_⟩
  rw [b32Chunk, ofDigits_append_zeros, hm, Nat.mul_comm _ m, ← Nat.mul_assoc,
    ← toDigits_mul_pow 32 _ _ _ (by omega), Nat.sub_add_cancel (by unfold b32Extra; omega)]

theorem b32_tail_dec {alpha : List Nat} {tbl : List (Option Nat)} (ok : B32Ok alpha tbl) (pad : Bool)
    (hp : pad = true → b32Val tbl 61 = some 0)
    (t : List Nat) (h0 : 0 < t.length) (h5 : t.length < 5) (h : ∀ x ∈ t, x < 256) :
    b32DecChunks tbl (b32Encode alpha pad t) = some (t ++ zeros (5 - t.length)) := by
  obtain ⟨m, hm⟩ := b32Chunk_tail t
  have he : 1 ≤ b32Extra t.length ∧ b32Extra t.length ≤ 6 := by unfold b32Extra; omega
  have hre := regroup 256 32 5 8 (t ++ zeros (5 - t.length)) (by simp [zeros]; omega)
    (List.forall_mem_append.2 ⟨h, fun x hx => by rw [List.eq_of_mem_replicate hx]; decide⟩) (by decide)
  rw [← b32Chunk, hm] at hre
  have hv := ok.vals_toDigits (by decide) (8 - b32Extra t.length) (ofDigits 256 t * m)
  rw [b32Encode_tail alpha pad t h0 h5, hm, List.take_left' (toDigits_length ..)]
  cases pad
  · rw [if_neg (by decide), List.replicate_zero, List.append_nil,
      b32DecChunks_tail tbl _ _ (by simp [toDigits_length]; omega) (by simp [toDigits_length]; omega) hv,
      List.length_map, toDigits_length, Nat.sub_sub_self (by omega), hre]
  · rw [if_pos rfl, ← List.append_nil (_ ++ List.replicate _ _),
      b32DecChunks_append tbl _ [] _ [] (by simp [toDigits_length]; omega)
        (vals_append _ _ _ _ _ hv (vals_pad tbl (hp rfl) _)) (b32DecChunks.eq_2 tbl),
      List.append_nil, hre]

theorem b32DecChunks_encode {alpha : List Nat} {tbl : List (Option Nat)} (ok : B32Ok alpha tbl) (pad : Bool)
    (hp : pad = true → b32Val tbl 61 = some 0) (bs : List Nat) (h : ∀ x ∈ bs, x < 256) :
    b32DecChunks tbl (b32Encode alpha pad bs) = some (bs ++ zeros ((5 - bs.length % 5) % 5)) := by
  induction bs using chunk_induction 5 (by omega) with
  | nil => rfl
  | tail t h0 h5 =>
    rw [show (5 - t.length % 5) % 5 = 5 - t.length by omega]
    exact b32_tail_dec ok pad hp t h0 h5 h
  | step c rest hc ih =>
    obtain ⟨hbc, hbr⟩ := List.forall_mem_append.1 h
    have hr := ih hbr
    have hre := regroup 256 32 5 8 c hc hbc (by decide)
    rw [b32Encode_append _ _ _ _ hc, b32Chunk,
      b32DecChunks_append tbl _ _ _ _ (by simp [toDigits_length])
        (ok.vals_toDigits (by decide) 8 _) hr, hre]
    simp [hc]

theorem b32Encode_shape (alpha : List Nat) (pad : Bool) (bs : List Nat) :
    ∃ (ds : List Nat) (e : Nat), (∀ d ∈ ds, d < 32) ∧ ds.length = (8 * bs.length + 4) / 5 ∧ e ≤ 6 ∧
      b32Encode alpha pad bs = ds.map (alphaAt alpha) ++ List.replicate e 61 := by
  induction bs using chunk_induction 5 (by omega) with
  | nil => exact ⟨[], 0, by simp, rfl, by omega, rfl⟩
  | tail t h0 h5 =>
    refine ⟨_, _, fun d hd => b32Chunk_lt _ d (List.mem_of_mem_take hd), ?_, ?_,
      b32Encode_tail alpha pad t h0 h5⟩
    · simp [b32Chunk_length, b32Extra]; omega
    · unfold b32Extra; split <;> omega
  | step c rest hc ih =>
    obtain ⟨ds, e, hd, hl, he, hs⟩ := ih
    refine ⟨b32Chunk c ++ ds, e, ?_, ?_, he, ?_⟩
    · exact List.forall_mem_append.2 ⟨b32Chunk_lt c, hd⟩
    · simp [b32Chunk_length, hl, hc]; omega
    · rw [b32Encode_append _ _ _ _ hc, hs, List.map_append, List.append_assoc]

theorem b32Encode_ascii {alpha : List Nat} {tbl : List (Option Nat)} (ok : B32Ok alpha tbl) (pad : Bool)
    (bs : List Nat) : ∀ x ∈ b32Encode alpha pad bs, x < 128 := by
  obtain ⟨ds, e, hd, -, -, hs⟩ := b32Encode_shape alpha pad bs
  intro x hx
  rw [hs] at hx
  rcases List.mem_append.1 hx with hx | hx
  · obtain ⟨d, hd', rfl⟩ := List.mem_map.1 hx
    exact ok.ascii _ (ok.mem (hd d hd'))
  · rw [List.eq_of_mem_replicate hx]; decide

theorem unpaddedLen_letters_pad (L : List Nat) (e : Nat) (hL : ∀ x ∈ L, x ≠ 61) (he : e ≤ 6) :
    unpaddedLen (L ++ List.replicate e 61) = L.length := by
  have h1 : L.reverse.takeWhile (· == 61) = [] :=
    takeWhile_head _ _ fun y hy => by simpa using hL y (by simpa using List.mem_of_mem_head? hy)
  rw [unpaddedLen, trailingPads, List.reverse_append, List.reverse_replicate,
    List.takeWhile_append_of_pos (by simp), h1]
  simp
  omega

theorem b32_roundtrip_gen {alpha : List Nat} {tbl : List (Option Nat)} (ok : B32Ok alpha tbl) (pad : Bool)
    (hp : pad = true → b32Val tbl 61 = some 0) (bs : List Nat) (h : ∀ x ∈ bs, x < 256) :
    b32Decode tbl (b32Encode alpha pad bs) = some bs := by
  have hchunks := b32DecChunks_encode ok pad hp bs h
  have hascii : (b32Encode alpha pad bs).any (· ≥ 128) = false := by
    simpa using b32Encode_ascii ok pad bs
  obtain ⟨ds, e, hd, hl, he, hs⟩ := b32Encode_shape alpha pad bs
  have hu : unpaddedLen (b32Encode alpha pad bs) = ds.length := by
    rw [hs, ← List.length_map (alphaAt alpha)]
    refine unpaddedLen_letters_pad _ e (fun x hx hx61 => ?_) he
    obtain ⟨d, hd', rfl⟩ := List.mem_map.1 hx
    exact ok.ne (hx61 ▸ ok.mem (hd d hd'))
  unfold b32Decode
  rw [if_neg (by simp [hascii]), hchunks, hu, hl, Option.map_some,
    show (8 * bs.length + 4) / 5 * 5 / 8 = bs.length by omega, List.take_left' rfl]

end Xeh.Enc
