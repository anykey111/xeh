/- Programs that, when they succeed, end by pushing an untagged cell, for `C13.fresh_untagged_coll`
   (the arithmetic words have this from `Quotes`, Proofs/ArithGood.lean). -/
import XehModel.Proofs.TagBlind

namespace Xeh
open Prog Coll

def Fresh (p : Prog) : Prop :=
  ∀ (h : Nat) (s r : List Cell), p.runStack h s = .ok r → ∃ c rest, r = c :: rest ∧ c.tags = none

namespace Fresh

theorem push {c : Cell} (hc : c.tags = none) : Fresh (.push c .done) :=
  fun _ s _ hr => ⟨c, s, (Outcome.ok.inj hr).symm, hc⟩

theorem fail {e : Xerr} : Fresh (.fail e) := fun _ _ _ => nofun
theorem panic {m : String} : Fresh (.panic m) := fun _ _ _ => nofun

theorem pop {k : Cell → Prog} (hk : ∀ c, Fresh (k c)) : Fresh (.pop k)
  | _, [], _, hr => nomatch hr
  | h, c :: s, r, hr => by
    rw [runStack] at hr
    split at hr
    · exact hk c h s r hr
    · cases hr

theorem depth {k : Nat → Prog} (hk : ∀ n, Fresh (k n)) : Fresh (.depth k) := fun h s => hk _ h s
theorem rawLen {k : Nat → Prog} (hk : ∀ n, Fresh (k n)) : Fresh (.rawLen k) := fun h s => hk _ h s
theorem rawFrom {p : Nat} {k : List Cell → Prog} (hk : ∀ l, Fresh (k l)) : Fresh (.rawFrom p k) := fun h s => hk _ h s

theorem popN {n : Nat} {k : Prog} (hk : Fresh k) : Fresh (popN n k) := by
  induction n with
  | zero => exact hk
  | succ n ih => exact .pop fun _ => ih

theorem ofOutcome {α} {o : Outcome α} {k : α → Prog} (hk : ∀ a, Fresh (k a)) : Fresh (ofOutcome o k) := by
  cases o
  · exact hk _
  · exact .fail
  · exact .panic

theorem ite {c : Prop} [Decidable c] {p q : Prog} (hp : Fresh p) (hq : Fresh q) : Fresh (if c then p else q) := by
  split
  · exact hp
  · exact hq

end Fresh

theorem fresh_wordSort : Fresh wordSort := Fresh.pop fun _ => Fresh.ofOutcome fun _ => Fresh.push rfl
theorem fresh_wordReverse : Fresh wordReverse := Fresh.pop fun _ => Fresh.ofOutcome fun _ => Fresh.push rfl

theorem fresh_wordInsert : Fresh wordInsert := Fresh.pop fun _ => Fresh.pop fun _ => Fresh.pop fun _ => by
  split
  · exact Fresh.push rfl
  · exact Fresh.fail
theorem fresh_wordRemove : Fresh wordRemove := Fresh.pop fun _ => Fresh.pop fun _ => by
  split
  · exact Fresh.push rfl
  · exact Fresh.fail
theorem fresh_wordLength : Fresh wordLength := Fresh.pop fun _ => by
  split
  · exact Fresh.push rfl
  · exact Fresh.push rfl
  · exact Fresh.push rfl
  · exact Fresh.fail
theorem fresh_wordSlice : Fresh wordSlice :=
  Fresh.pop fun _ => Fresh.ofOutcome fun _ => Fresh.pop fun _ => Fresh.ofOutcome fun _ => Fresh.pop fun _ => by
  split
  · exact Fresh.push rfl
  · exact Fresh.push rfl
  · exact Fresh.fail
theorem fresh_wordConcat : Fresh wordConcat := Fresh.pop fun _ => Fresh.ofOutcome fun _ => by
  split
  · exact Fresh.push rfl
  · exact Fresh.fail
theorem fresh_wordJoin : Fresh wordJoin :=
  Fresh.pop fun _ => Fresh.ofOutcome fun _ => Fresh.pop fun _ => Fresh.ofOutcome fun _ => by
  split
  · exact Fresh.push rfl
  · exact Fresh.fail
theorem fresh_wordPush : Fresh wordPush :=
  Fresh.pop fun _ => Fresh.ofOutcome fun _ => Fresh.pop fun _ => Fresh.push rfl
theorem fresh_wordCollect : Fresh wordCollect :=
  Fresh.pop fun _ => Fresh.ofOutcome fun _ => Fresh.depth fun _ => Fresh.ite Fresh.fail <|
    Fresh.rawLen fun _ => Fresh.rawFrom fun _ => Fresh.popN (Fresh.push rfl)
theorem fresh_wordIs (t) : Fresh (wordIs t) := Fresh.pop fun _ => Fresh.push rfl

end Xeh
