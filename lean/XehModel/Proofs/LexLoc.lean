/- The `token_location` scan against a declarative description of line / column / quoted line. -/
import XehModel.Proofs.LexTiling

namespace Xeh.Lex

def isBreak (c : Char) : Bool := c == '\n' || c == '\r'

/-- `seg` is the current break-free run -/
def lastSegAux : List Char → List Char → List Char
  | [], seg => seg
  | c :: r, seg => if isBreak c then lastSegAux r [] else lastSegAux r (seg ++ [c])

def lastSeg (pre : List Char) : List Char := lastSegAux pre []

def countLF : List Char → Nat
  | [] => 0
  | c :: r => (if c == '\n' then 1 else 0) + countLF r

def firstSeg : List Char → List Char
  | [] => []
  | c :: r => if isBreak c then [] else c :: firstSeg r

theorem lastSegAux_spec (pre seg : List Char) (hseg : ∀ c ∈ seg, isBreak c = false) :
    ∃ a, seg ++ pre = a ++ lastSegAux pre seg ∧ (∀ c ∈ lastSegAux pre seg, isBreak c = false) ∧
      (a = [] ∨ ∃ a' b, a = a' ++ [b] ∧ isBreak b = true) := by
  induction pre generalizing seg with
  | nil => exact ⟨[], by simp [lastSegAux], by simpa [lastSegAux] using hseg, Or.inl rfl⟩
  | cons c r ih =>
    by_cases hc : isBreak c = true
    · obtain ⟨a1, h1, h2, h3⟩ := ih [] (by simp)
      simp only [lastSegAux, hc, if_true]
      refine ⟨seg ++ [c] ++ a1, ?_, h2, Or.inr ?_⟩
      · simp only [List.nil_append] at h1
        rw [List.append_assoc, List.append_assoc, ← h1]; simp
      · rcases h3 with rfl | ⟨a', b, rfl, hb⟩
        · exact ⟨seg, c, by simp, hc⟩
        · exact ⟨seg ++ [c] ++ a', b, by simp, hb⟩
    · have hc' : isBreak c = false := by simpa using hc
      obtain ⟨a1, h1, h2, h3⟩ := ih (seg ++ [c]) (by
        intro x hx; simp only [List.mem_append, List.mem_singleton] at hx
        rcases hx with hx | rfl
        · exact hseg x hx
        · exact hc')
      simp only [lastSegAux, hc', Bool.false_eq_true, if_false]
      exact ⟨a1, by rw [← h1]; simp, h2, h3⟩

theorem utf8Size_add (c : Char) (n : Nat) :
    ∃ k, utf8Size c + n = k + 1 ∧ utf8Size c ≤ k + 1 ∧ k + 1 - utf8Size c = n := by
  have := utf8Size_pos c
  refine ⟨utf8Size c + n - 1, ?_⟩
  omega

theorem dropBytes_append (a r : List Char) : dropBytes (a ++ r) (utf8Len a) = some r := by
  induction a with
  | nil => cases r <;> rfl
  | cons c t ih =>
    obtain ⟨k, hk, hle, hsub⟩ := utf8Size_add c (utf8Len t)
    rw [utf8Len_cons, hk, List.cons_append, dropBytes, if_pos hle, hsub, ih]

theorem takeBytes_append (m b : List Char) : takeBytes (m ++ b) (utf8Len m) = some m := by
  induction m with
  | nil => cases b <;> rfl
  | cons c t ih =>
    obtain ⟨k, hk, hle, hsub⟩ := utf8Size_add c (utf8Len t)
    rw [utf8Len_cons, hk, List.cons_append, takeBytes, if_pos hle, hsub, ih]
    rfl

theorem substrBytes_mid (a m b : List Char) :
    substrBytes (a ++ m ++ b) (utf8Len a) (utf8Len a + utf8Len m) = some m := by
  unfold substrBytes
  simp only [Nat.le_add_right, if_true]
  rw [List.append_assoc, dropBytes_append]
  simp only [Option.bind]
  have : utf8Len a + utf8Len m - utf8Len a = utf8Len m := by omega
  rw [this, takeBytes_append]

/-- `seg` is the current break-free run; the loop state is `start = i - |seg|` bytes, `col = |seg|` chars; its `end` is
    `e` until the first char is read and the position after the last char read from then on, so `e` matters only when
    `pre` is empty (`he`). -/
theorem locLoop_before (T : Nat) (pre post : List Char) (i : Nat) (seg : List Char) (e line : Nat)
    (hT : T = i + utf8Len pre) (hseg : utf8Len seg ≤ i) (he : pre = [] → e = T) :
    locLoop T (pre ++ post) i (i - utf8Len seg) e line seg.length =
      locLoop T post T (T - utf8Len (lastSegAux pre seg)) T (line + countLF pre)
        (lastSegAux pre seg).length := by
  induction pre generalizing i seg e line with
  | nil => rw [he rfl, hT, utf8Len_nil]; rfl
  | cons c r ih =>
    have hp := utf8Size_pos c
    rw [utf8Len_cons] at hT
    have hr : r = [] → i + utf8Size c = T := fun h => by rw [hT, h, utf8Len_nil]; rfl
    simp only [List.cons_append, locLoop]
    by_cases hc : isBreak c = true
    · have hnot : ¬(i - utf8Len seg ≤ T ∧ T < i + utf8Size c) := by omega
      rw [if_pos (show (c == '\n' || c == '\r') = true from hc), if_neg hnot]
      have := ih (i + utf8Size c) [] (i + utf8Size c) (if (c == '\n') = true then line + 1 else line)
        (by rw [hT, Nat.add_assoc]) (Nat.zero_le _) hr
      rw [utf8Len_nil, Nat.sub_zero] at this
      refine this.trans ?_
      simp only [lastSegAux, hc, if_true, countLF]
      congr 1
      split <;> omega
    · have hc' : isBreak c = false := by simpa using hc
      have hlen : utf8Len (seg ++ [c]) = utf8Len seg + utf8Size c := by
        rw [utf8Len_append, utf8Len_cons, utf8Len_nil]; rfl
      rw [if_neg (show ¬(c == '\n' || c == '\r') = true from hc), if_pos (show i < T by omega)]
      have := ih (i + utf8Size c) (seg ++ [c]) (i + utf8Size c) line (by rw [hT, Nat.add_assoc])
        (by rw [hlen]; exact Nat.add_le_add_right hseg _) hr
      rw [hlen, Nat.add_sub_add_right, List.length_append] at this
      refine this.trans ?_
      have hn : (c == '\n') = false := by
        simp only [isBreak, Bool.or_eq_false_iff] at hc'; exact hc'.1
      simp only [lastSegAux, hc', countLF, hn, Bool.false_eq_true, if_false, Nat.zero_add]

theorem locLoop_after (T : Nat) (post : List Char) (i start line col : Nat) (hi : T ≤ i) (hs : start ≤ T) :
    locLoop T post i start i line col = (start, i + utf8Len (firstSeg post), line, col) := by
  induction post generalizing i with
  | nil => simp [locLoop, firstSeg, utf8Len]
  | cons c r ih =>
    have hp := utf8Size_pos c
    simp only [locLoop]
    by_cases hc : isBreak c = true
    · have hc2 : (c == '\n' || c == '\r') = true := hc
      have hin : start ≤ T ∧ T < i + utf8Size c := by omega
      simp [hc2, hin, firstSeg, hc, utf8Len]
    · have hc' : isBreak c = false := by simpa using hc
      have hc2 : (c == '\n' || c == '\r') = false := hc'
      have hlt : ¬ i < T := by omega
      simp only [hc2, Bool.false_eq_true, if_false, hlt]
      rw [ih (i + utf8Size c) (by omega)]
      simp [firstSeg, hc', utf8Len_cons]; omega

end Xeh.Lex
