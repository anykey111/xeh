import Lean.Meta.Tactic.Simp.RegisterCommand

/-- the evaluator's rules as rewrite rules (Proofs/LeafLemmas.lean) -/
register_simp_attr mi
