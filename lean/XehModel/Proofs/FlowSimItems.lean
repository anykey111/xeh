/-
What each item of a block does to the compiler state (`Did`), given what its sub-blocks did.  Nothing here looks at the
parser: the statements are those `parseBlock` builds for the item.
-/
import XehModel.Proofs.FlowSimInv
import XehModel.Proofs.FlowPops

namespace Xeh.Structured
open Xeh Xeh.Mach Xeh.Compile Xeh.Compile.CState

variable {p st2 st3 : PState} {k : Bool} {s s2 s4 : CState} {cur : Nat} {a b : Stmt}

theorem did_ifThen (idx ti pc0 : Nat) (d : Did st2 (opened { s with lastTok := idx } (.ifF s.code.length) [.jumpIfNot 0]) [a] s2)
    (hna : noArm (hcode a) = true) :
    ∃ s3, immediate { s2 with lastTok := ti } "then" = .ok s3 ∧ Did { st2 with pc := pc0 } s [.ifThen idx a] s3 := by
  refine ⟨_, close_then_g { s2 with lastTok := ti } s.code (erase (hcode a)) _ _ (pend_brks _ _ hna) d.opened_code (d.opened_flows nofun), ?_⟩
  exact ⟨(d.m.pc _).same, d.hidden, rfl, by show _ ++ _ :: _ = _; rw [length_erase, length_hcode]; rfl, d.dmap.trans (List.append_assoc ..)⟩

/-- `else`: the state in which the second branch is compiled, and what the closing `then` makes of both branches -/
theorem did_else (hA : At p k s cur) (idx ti : Nat) (his : st2.locals.isSome = p.locals.isSome)
    (d : Did st2 (opened { s with lastTok := idx } (.ifF s.code.length) [.jumpIfNot 0]) [a] s2) (hna : noArm (hcode a) = true) :
    ∃ sB, immediate { s2 with lastTok := ti } "else" = .ok sB ∧ At { st2 with pc := cur + 1 + size a + 1 } k sB (cur + 1 + size a + 1) ∧
      ∀ {st3 : PState} {b : Stmt} {s4 : CState} (tib pc0 : Nat), Did st3 sB [b] s4 → noArm (hcode b) = true →
        ∃ s5, immediate { s4 with lastTok := tib } "then" = .ok s5 ∧ Did { st3 with pc := pc0 } s [.ifElse idx ti a b] s5 := by
  have hPa := pend_brks _ (s.code.length + 1) hna
  refine ⟨_, close_else_g { s2 with lastTok := ti } s.code _ _ _ hPa d.opened_code (d.opened_flows nofun), ⟨?_, ?_, ?_, ?_⟩, ?_⟩
  · exact (d.m.pc _).same
  · exact ((hA.loc.wl his).pend _ (pend_kinds _ _)).cons (.elseF _) nofun
  · intro hk
    show hasLoops (_ :: (_ ++ wl st2.locals s.flows)) = true
    rw [hasLoops_cons, hasLoops_append, hasLoops_wl, hA.loops hk]; simp
  · show (s.code ++ _ :: (_ ++ [_])).length = _
    simp [hA.len]; omega
  · intro st3 b s4 tib pc0 d2 hnb
    have hc4 : s4.code = s.code ++ Op.jumpIfNot ((size a + 2 : Nat) : Int) :: (erase (hcode a) ++ Op.jump 0 :: erase (hcode b)) := by
      rw [d2.code]; simp [hcL_one]
    have hf4 : s4.flows = pend (s.code.length + 1 + size a + 1) (hcode b) ++
        .elseF (s.code.length + 1 + (erase (hcode a)).length) :: (pend (s.code.length + 1) (hcode a) ++ wl st3.locals s.flows) := by
      rw [d2.flows, hcL_one]
      show pend (s.code ++ _ :: (_ ++ [_])).length _ ++ wl _ (.elseF _ :: (_ ++ wl _ _)) = _
      rw [wl_cons _ (.elseF _) _ nofun, wl_pend _ _ _ (pend_kinds _ _), wl_wl]
      simp; congr 1; omega
    refine ⟨_, close_then_else_g { s4 with lastTok := tib } s.code _ _ _ _ _ (pend_brks _ _ hnb) hc4 hf4, ?_⟩
    exact ⟨(d2.m.pc _).same, d2.hidden.trans d.hidden,
      by simp [hcL_one, hcode, pend, pend_append, Nat.add_assoc],
      by simp [hcL_one, hcode, erase, HOp.erase],
      by show s4.dmap = _; rw [d2.dmap]; show (s2.dmap ++ _) ++ _ = _; rw [d.dmap]; simp [opened, hcL_one, hcode, toks]⟩

theorem did_until (idx ti pc0 : Nat) (d : Did st2 (opened { s with lastTok := idx } (.beginF s.code.length) []) [a] s2)
    (hw : WFS a false false = true) :
    ∃ s3, immediate { s2 with lastTok := ti } "until" = .ok s3 ∧ Did { st2 with pc := pc0 } s [.untilLoop ti a] s3 := by
  have ha := hcode_closed hw
  have hf : s2.flows = .beginF s.code.length :: wl st2.locals s.flows := by
    rw [d.opened_flows nofun, pend_closed _ _ (wfs_noArm a _ hw) (wfs_noBrk a _ hw)]; rfl
  refine ⟨_, close_until { s2 with lastTok := ti } s.code _ _ d.opened_code hf, ?_⟩
  exact ⟨(d.m.pc _).same, d.hidden, by simp [hcL_one, hcode, pend_closed _ _ (no_ops _).1 (no_ops _).2],
    by simp [hcL_one, hcode, ha, erase, ops, compileS, HOp.erase, compileS_len],
    by show s2.dmap ++ _ = _; rw [d.dmap]; simp [opened, hcL_one, hcode, ha, toks, ops, compileS]⟩

theorem did_repeat (idx ti pc0 : Nat) (d : Did st2 (opened { s with lastTok := idx } (.beginF s.code.length) []) [a] s2)
    (hw : WFS a true false = true) :
    ∃ s3, immediate { s2 with lastTok := ti } "repeat" = .ok s3 ∧ Did { st2 with pc := pc0 } s [.repeatLoop ti a] s3 := by
  obtain ⟨hx, hd⟩ := loop_body hw (.jump 1)
  refine ⟨_, close_repeat_g { s2 with lastTok := ti } s.code _ _ (wfs_noArm a _ hw) d.opened_code (d.opened_flows nofun), ?_⟩
  exact ⟨(d.m.pc _).same, d.hidden, by simp [hcL_one, hcode, pend_closed _ _ (no_ops _).1 (no_ops _).2],
    by simp [hcL_one, hcode, hx, erase_ops, compileS],
    by show s2.dmap ++ _ = _; rw [d.dmap]; simp [opened, hcL_one, hcode, hd, toks_ops, compileS]⟩

/-- `begin c while a repeat`: `d1` is the condition, `d2` the body compiled behind `while` -/
theorem did_while (idx ti tib pc0 : Nat) {c : Stmt}
    (d1 : Did st2 (opened { s with lastTok := idx } (.beginF s.code.length) []) [c] s2) (hwc : WFS c false false = true)
    (d2 : Did st3 (opened { s2 with lastTok := ti } (.whileF s2.code.length) [.jumpIfNot 0]) [a] s4) (hwa : WFS a true false = true) :
    ∃ s5, immediate { s4 with lastTok := tib } "repeat" = .ok s5 ∧ Did { st3 with pc := pc0 } s [.whileLoop ti tib c a] s5 := by
  obtain ⟨hx, hd⟩ := loop_body hwa (.jump 1)
  have hcc := hcode_closed hwc
  have hc2 : s2.code = s.code ++ erase (hcode c) := d1.opened_code
  have hf2 : s2.flows = .beginF s.code.length :: wl st2.locals s.flows := by
    rw [d1.opened_flows nofun, pend_closed _ _ (wfs_noArm c _ hwc) (wfs_noBrk c _ hwc)]; rfl
  have hc4 : s4.code = s.code ++ (erase (hcode c) ++ Op.jumpIfNot 0 :: erase (hcode a)) := by rw [d2.opened_code]; simp [hc2]
  have hf4 : s4.flows = pend (s.code.length + (erase (hcode c)).length + 1) (hcode a) ++
      .whileF (s.code.length + (erase (hcode c)).length) :: .beginF s.code.length :: wl st3.locals s.flows := by
    rw [d2.opened_flows nofun]
    show _ ++ _ :: wl _ s2.flows = _
    rw [hf2, hc2, List.length_append, wl_cons _ (.beginF _) _ nofun, wl_wl]; rfl
  refine ⟨_, close_repeat_while_g { s4 with lastTok := tib } s.code _ _ _ (wfs_noArm a _ hwa) hc4 hf4, ?_⟩
  exact ⟨(d2.m.pc _).same, d2.hidden.trans d1.hidden, by simp [hcL_one, hcode, pend_closed _ _ (no_ops _).1 (no_ops _).2],
    by simp [hcL_one, hcode, hx, hcc, erase_ops, compileS, compileS_len, Int.add_assoc],
    by show s4.dmap ++ _ = _; rw [d2.dmap]; show (s2.dmap ++ _) ++ _ ++ _ = _; rw [d1.dmap]; simp [opened, hcL_one, hcode, hd, hcc, toks_ops, compileS]⟩

theorem did_do (idx ti pc0 : Nat)
    (d : Did st2 (opened { s with lastTok := idx } (.doF s.code.length (s.code.length + 1)) [.doOp 0]) [a] s2)
    (hw : WFS a true false = true) :
    ∃ s3, immediate { s2 with lastTok := ti } "loop" = .ok s3 ∧ Did { st2 with pc := pc0 } s [.doLoop idx ti a] s3 := by
  obtain ⟨hx, hd⟩ := loop_body hw (.loop 1)
  refine ⟨_, close_loop_g { s2 with lastTok := ti } s.code _ _ (wfs_noArm a _ hw) d.opened_code (d.opened_flows nofun), ?_⟩
  exact ⟨(d.m.pc _).same, d.hidden, by simp [hcL_one, hcode, pend_closed _ _ (no_ops _).1 (no_ops _).2],
    by simp [hcL_one, hcode, hx, erase_ops, compileS],
    by show s2.dmap ++ _ = _; rw [d.dmap]; simp [opened, hcL_one, hcode, hd, toks_ops, compileS]⟩

/-- `foreach … loop` is `do … loop` behind one more opcode, with one more opcode in front of the body -/
theorem did_foreach (hA : At p k s cur) (idx ti pc0 : Nat)
    (d : Did st2 (opened { s with lastTok := idx } (.doF (s.code.length + 1) (s.code.length + 2))
      [.native "<foreach-init>", .doOp 0, .native "<foreach-next>"]) [a] s2) (hw : WFS a true false = true) :
    ∃ s3, immediate { s2 with lastTok := ti } "loop" = .ok s3 ∧
      Did { st2 with pc := pc0 } s [.doLoop idx ti (.seq (.op idx (.native "<foreach-next>")) a), .op idx (.native "<foreach-init>")] s3 := by
  have e := hA.emit idx (.native "<foreach-init>")
  -- `d` read as: `do` opened behind `<foreach-init>`, and a body that begins with `<foreach-next>`
  have d' : Did st2 (opened { (CState.emit { s with lastTok := idx } (.native "<foreach-init>")) with lastTok := idx }
      (.doF (s.code ++ [Op.native "<foreach-init>"]).length ((s.code ++ [Op.native "<foreach-init>"]).length + 1)) [.doOp 0])
      [.seq (.op idx (.native "<foreach-next>")) a] s2 :=
    ⟨d.m, d.hidden, by rw [d.flows]; simp [hcL_one, hcode, compileS, ops, pend, opened, CState.emit, Nat.add_assoc],
      by rw [d.code]; simp [hcL_one, hcode, compileS, ops, erase, HOp.erase, opened, CState.emit],
      by rw [d.dmap]; simp [hcL_one, hcode, compileS, ops, toks, opened, CState.emit]⟩
  obtain ⟨s3, hcl, d3⟩ := did_do idx ti pc0 d' (by simpa [WFS, straight] using hw)
  exact ⟨s3, hcl, e.trans d3⟩

theorem did_case (idx ti pc0 : Nat) (d : Did st2 (opened { s with lastTok := idx } .caseF []) [a] s2) :
    ∃ s3, immediate { s2 with lastTok := ti } "endcase" = .ok s3 ∧ Did { st2 with pc := pc0 } s [.caseS a] s3 := by
  refine ⟨_, close_endcase_g { s2 with lastTok := ti } s.code (hcode a) _ d.opened_code (d.opened_flows nofun), ?_⟩
  exact ⟨(d.m.pc _).same, d.hidden, by rw [hcL_one, hcode, pend_subst], rfl,
    by show s2.dmap = _; rw [d.dmap]; simp [opened, hcL_one, hcode]⟩

theorem did_arm (idx ti pc0 : Nat) (d : Did st2 (opened { s with lastTok := idx } (.caseOfF s.code.length) [.caseOf 0]) [a] s2)
    (hna : noArm (hcode a) = true) :
    ∃ s3, immediate { s2 with lastTok := ti } "endof" = .ok s3 ∧ Did { st2 with pc := pc0 } s [.arm idx ti a] s3 := by
  refine ⟨_, close_endof_g { s2 with lastTok := ti } s.code _ _ _ (pend_brks _ _ hna) d.opened_code (d.opened_flows nofun), ?_⟩
  exact ⟨(d.m.pc _).same, d.hidden, by simp [hcL_one, hcode, pend, pend_append, Nat.add_assoc],
    by simp [hcL_one, hcode, erase, HOp.erase],
    by show s2.dmap ++ _ = _; rw [d.dmap]; simp [opened, hcL_one, hcode, toks]⟩

/-- `[ … ]`, `{ … }`, `^{ … ^}`: `fo` is the entry the opening word pushes, `nb` and `ne` the natives the two words emit -/
theorem did_builder (idx ti pc0 : Nat) {fo : Flow} {nb ne cw : String} (hfo : ∀ ff, fo ≠ .funF ff)
    (hcl : ∀ (s' : CState) (fl : List Flow), s'.flows = fo :: fl →
      immediate s' cw = .ok { s' with flows := fl, code := s'.code ++ [Op.native ne], dmap := s'.dmap ++ [s'.lastTok] })
    (d : Did st2 (opened { s with lastTok := idx } fo [.native nb]) [a] s2)
    (hna : noArm (hcode a) = true) (hnb : noBrk (hcode a) = true) :
    ∃ s3, immediate { s2 with lastTok := ti } cw = .ok s3 ∧
      Did { st2 with pc := pc0 } s [.op ti (.native ne), a, .op idx (.native nb)] s3 := by
  have hf : s2.flows = fo :: wl st2.locals s.flows := by rw [d.opened_flows hfo, pend_closed _ _ hna hnb]; rfl
  refine ⟨_, hcl { s2 with lastTok := ti } _ hf, ?_⟩
  exact ⟨(d.m.pc _).same, d.hidden, by simp [hcL, hcode, compileS, ops, pend, pend_append, pend_closed _ _ hna hnb],
    by show s2.code ++ _ = _; rw [d.code]; simp [opened, hcL, hcode, compileS, ops, erase, HOp.erase],
    by show s2.dmap ++ _ = _; rw [d.dmap]; simp [opened, hcL, hcode, compileS, ops, toks]⟩

theorem did_brk (hA : At p true s cur) (idx : Nat) :
    ∃ s1, immediate { s with lastTok := idx } "break" = .ok s1 ∧ Did p s [.brk idx] s1 := by
  have hl : hasLoops ({ s with lastTok := idx } : CState).flows = true := hA.loops rfl
  refine ⟨_, by show (if hasLoops _ = true then CRes.ok _ else _) = _; rw [if_pos hl], ?_⟩
  exact ⟨hA.m.same, rfl, by show _ :: _ = _; rw [hA.loc.wl_self]; simp [hcL_one, hcode, pend, CState.origin, CState.emit], rfl, rfl⟩

theorem did_base (hA : At p k s cur) (idx : Nat) (n : Int) :
    Did p s [.op idx (.native "<fmt-base>"), .op idx (Compile.loadValueOp (.int n))]
      (emitNative (({ s with lastTok := idx } : CState).emit (Compile.loadValueOp (.int n))) "<fmt-base>") :=
  ⟨hA.m.same, rfl, hA.loc.wl_self.symm, by simp [emitNative, CState.emit, hcL, hcode, compileS, ops, erase, HOp.erase],
    by simp [emitNative, CState.emit, hcL, hcode, compileS, ops, toks]⟩

theorem did_call (hA : At p k s cur) (idx addr ret : Nat) :
    Did p s [.call idx addr ret] (({ s with lastTok := idx } : CState).emit (.call addr)) :=
  ⟨hA.m.same, rfl, hA.loc.wl_self.symm, rfl, rfl⟩

theorem did_local (hA : At p k s cur) (idx : Nat) (name : String) {ls : List String} (hpl : p.locals = some ls) :
    ∃ s1, withName { s with lastTok := idx + 1 } "local" name = .ok s1 ∧
      Did { p with locals := some (ls ++ [name]) } s [.op (idx + 1) (.initLocal ls.length)] s1 := by
  obtain ⟨ff, hff, rfl⟩ : ∃ ff, topFun s.flows = some ff ∧ ff.locals = ls := by
    have hlo := hA.loc
    unfold LocOK at hlo
    rw [hpl] at hlo
    cases htf : topFun s.flows with
    | none => rw [htf] at hlo; cases hlo
    | some ff => rw [htf] at hlo; exact ⟨ff, rfl, (Option.some.inj hlo).symm⟩
  refine ⟨_, by simp only [withName, buildLocal, hff, setTopFun_eq s.flows ff _ hff]; rfl, ?_⟩
  exact ⟨⟨hA.m.dict, hA.m.heap, hA.m.lim, hA.m.notMeta⟩, rfl, rfl, rfl, rfl⟩

theorem did_var (hA : At p k s cur) (idx : Nat) (name : String) (hfe : s.flows = []) (hh : s.hiddenFlows = 0) :
    ∃ s1, withName { s with lastTok := idx + 1 } "var" name = .ok s1 ∧
      Did { p with dict := (name, .var p.heapLen) :: p.dict, heapLen := p.heapLen + 1 } s [.op (idx + 1) (.store p.heapLen)] s1 := by
  refine ⟨({ s with lastTok := idx + 1, heapLen := s.heapLen + 1, dict := (name, .var s.heapLen) :: s.dict } : CState).emit
    (.store s.heapLen), by simp [withName, buildGlobal, hfe, hh, hA.m.notMeta, hA.m.lim], ?_⟩
  exact ⟨⟨by show _ :: s.dict = _; rw [hA.m.dict, hA.m.heap], by show s.heapLen + 1 = _; rw [hA.m.heap], hA.m.lim, hA.m.notMeta⟩,
    rfl, hA.loc.wl_self.symm, by show _ = s.code ++ [Op.store p.heapLen]; rw [← hA.m.heap]; rfl, rfl⟩

/-- the state in which the body is compiled, and what `;` makes of it -/
theorem did_defn (hA : At p k s cur) (idx ti : Nat) (name : String) (hpl : p.locals = none) :
    ∃ sA, withName { s with lastTok := idx + 1 } ":" name = .ok sA ∧
      At { p with pc := cur + 1, locals := some [], dict := (name, .interp false (cur + 1)) :: p.dict } false sA (cur + 1) ∧
      ∀ {st2 : PState} {a : Stmt} {s2 : CState} (p' : PState),
        p'.dict = st2.dict → p'.heapLen = st2.heapLen → p'.locals = none →
        Did st2 sA [a] s2 → WFS a false false = true →
        ∃ s3, immediate { s2 with lastTok := ti } ";" = .ok s3 ∧ Did p' s [.defn (idx + 1) ti a] s3 := by
  refine ⟨_, by simp only [withName]; rfl, ?_, ?_⟩
  · exact ⟨⟨by show _ :: s.dict = _; simp [CState.emit, CState.origin, hA.m.dict, hA.len], hA.m.heap, hA.m.lim, hA.m.notMeta⟩,
      rfl, nofun, by simp [CState.pushFlow, CState.emit, hA.len]⟩
  · intro st2 a s2 p' hd hh hl d hw
    have ha := hcode_closed hw
    have hc : s2.code = s.code ++ Op.jump 0 :: erase (hcode a) := by rw [d.code]; simp [CState.pushFlow, CState.emit, hcL_one]
    have hf : s2.flows = .funF { start := s.code.length, locals := st2.locals.getD [] } :: s.flows := by
      rw [d.flows, hcL_one, pend_closed _ _ (wfs_noArm a _ hw) (wfs_noBrk a _ hw)]; rfl
    refine ⟨_, close_semi { s2 with lastTok := ti } s.code _ _ _ hc hf rfl, ?_⟩
    exact ⟨⟨hd ▸ d.m.dict, hh ▸ d.m.heap, d.m.lim, d.m.notMeta⟩, d.hidden,
      by show s.flows = _ ++ wl p'.locals s.flows; rw [hl, ← hpl, hA.loc.wl_self]; simp [hcL_one, hcode, pend_closed _ _ (no_ops _).1 (no_ops _).2],
      by simp [hcL_one, hcode, ha, erase_ops, compileS, compileS_len],
      by show s2.dmap ++ _ = _; rw [d.dmap]; simp [CState.pushFlow, CState.emit, hcL_one, hcode, ha, toks_ops, compileS]⟩

end Xeh.Structured
