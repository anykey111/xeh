/-
C08 at the level of whole sources: whatever is submitted — any token list, in any mode, to any session, with any meta
blocks — the session model never answers `panic`.  The VM's only panic sites are the model's own two gap markers
(Proofs/NativeNoPanic.lean), both of which begin with "model:" and are therefore reported as `unsupported`
(`gap_marker`: this is where `String.startsWith` has to be reasoned about); the session layer's own `panic` branches
(an empty flow stack that claims to have something pending; a `pop_data` that panics) are unreachable.
-/
import Init.Data.String.Lemmas.Pattern.TakeDrop.String
import XehModel.Proofs.SessionLoop
import XehModel.Proofs.NativeNoPanic

namespace Xeh.Session
open Xeh Xeh.Mach Xeh.Compile Xeh.Session.Sess

theorem startsWith_append (a b : String) : (a ++ b).startsWith a = true := by
  simp only [String.startsWith_string_iff, String.toList_append]
  exact List.prefix_append _ _

theorem gap_marker (name : String) : (s!"model: native word {name} is outside the model").startsWith "model:" = true := by
  have e : ("model: native word " : String) = "model:" ++ " native word " := by decide
  show ("model: native word " ++ toString name ++ " is outside the model").startsWith "model:" = true
  rw [e, String.append_assoc, String.append_assoc]
  exact startsWith_append _ _

theorem gap_marker_print : ("model: printing this value is outside the model").startsWith "model:" = true :=
  startsWith_append "model:" " printing this value is outside the model"

def NPan (r : SRes) : Prop := r.All (fun _ => True) (fun _ => True) (fun _ => False)

theorem npan_runS (s : Sess) (fuel : Nat) : NPan (s.runS fuel) :=
  runS_all s fuel (fun _ _ => trivial) (fun _ _ _ => trivial) (fun p m' h hp => by
    rcases vm_never_panics fuel s.m p m' h with rfl | ⟨name, _, rfl⟩
    · rw [gap_marker_print] at hp; cases hp
    · rw [gap_marker] at hp; cases hp)

theorem npan_contextClose (s : Sess) (fuel : Nat) : NPan (s.contextClose fuel) :=
  contextClose_all (Q := fun _ => True) s fuel trivial (fun _ => trivial) (fun s1 _ => npan_runS s1 fuel)
    (fun _ _ _ => trivial) (fun _ _ _ => trivial)

theorem npan_act (fuel : Nat) (k : Kind) (s : Sess) : NPan (act fuel s k) := by
  cases k with
  | closeMeta => exact nestedEnd_all s fuel trivial (fun _ _ => npan_contextClose s fuel)
  | const name => exact constDef_all s name trivial (fun _ => trivial) (fun _ p h => popData_np s.m p h) (fun _ _ _ => trivial)
  | late _ | named _ _ | imm _ | word _ => exact ofC_all s _ (fun _ _ => trivial) (fun _ _ _ => trivial)
  | _ => trivial

theorem buildSource_never_panics (fuel : Nat) (mode : Mode) (toks : List Tok) (s : Sess) (p : String) (s' : Sess) :
    s.buildSource fuel mode toks ≠ .panic p s' := by
  have h := buildSource_all (Q := fun _ => True) fuel mode toks s
    (build1_all fuel (fun k x _ => npan_act fuel k x) (fun x _ => metaRun_all x fuel trivial (fun _ => npan_runS x fuel))
      (fun _ _ _ => trivial) (fun _ _ => trivial) toks (s.contextOpen mode) trivial)
    (fun _ _ => trivial) (fun s2 _ => npan_contextClose _ fuel)
  intro e
  rw [e] at h
  exact h

end Xeh.Session
