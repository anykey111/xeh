/-
"Write-only" fields. `eraseLog` forgets the reverse log; `normAll` the log, the instruction meter, captured stdout and
the about-to-stop flag; `normX` the log, the meter and the ip (primitives and native words only: they never read the ip).
Machines that agree after normalisation compute the same outcome and agree again: recording never influences execution
(C15), nor, without an instruction limit, do the meter and the output buffer (C02 replay). Each normalisation is a record
update, so it commutes with every read and write of the VM by unfolding: that is all the instances of VMCong.lean say.
-/
import XehModel.Proofs.VMCong

namespace Xeh.Mach

def eraseLog (m : Mach) : Mach := { m with log := none }
def normAll (m : Mach) : Mach := { m with log := none, meter := 0, out := [], aboutToStop := false }
/-- C01: the structural evaluator has no ip -/
def normX (m : Mach) : Mach := { m with log := none, meter := 0, ctx := { m.ctx with ip := 0 } }

theorem normX_setIp (m : Mach) (n : Nat) : normX (m.setIp n) = normX m := by unfold normX setIp; rfl

namespace Erase

theorem cong : StepCong fun a b => eraseLog a = eraseLog b where
  view := congrArg seen
  log _ h := h
  setDs x := congrArg fun m : Mach => { m with ds := x }
  setRs x := congrArg fun m : Mach => { m with rs := x }
  setLoops x := congrArg fun m : Mach => { m with loops := x }
  setSpecial x := congrArg fun m : Mach => { m with special := x }
  setHeap x := congrArg fun m : Mach => { m with heap := x }
  out s := congrArg fun m : Mach => { m with out := m.out ++ s }
  stop := congrArg fun m : Mach => { m with aboutToStop := true }
  setIp n := congrArg fun m : Mach => m.setIp n
  nextIp := congrArg nextIp
  ip := congrArg fun m : Mach => m.ctx.ip
  code := congrArg Mach.code
  dict := congrArg Mach.dict
  setCode c := congrArg fun m : Mach => { m with code := c }
  insnLimit := congrArg Mach.insnLimit
  tick := congrArg fun m : Mach => { m with meter := m.meter + 1 }
  meter h := .inr (congrArg Mach.meter h :)

theorem step_sim (np : String → Option Prog) (a b : Mach) (h : eraseLog a = eraseLog b) :
    (step np a).1 = (step np b).1 ∧ eraseLog (step np a).2 = eraseLog (step np b).2 := cong.step h np

theorem next_sim (np : String → Option Prog) (a b : Mach) (h : eraseLog a = eraseLog b) :
    (next np a).1 = (next np b).1 ∧ eraseLog (next np a).2 = eraseLog (next np b).2 := cong.next h np

theorem run_sim (np : String → Option Prog) (fuel : Nat) : ∀ a b : Mach, eraseLog a = eraseLog b →
    (run np fuel a).map (·.1) = (run np fuel b).map (·.1) ∧
    (run np fuel a).map (fun r => eraseLog r.2) = (run np fuel b).map (fun r => eraseLog r.2) := by
  intro a b h
  have hr := cong.run np fuel h
  revert hr
  cases run np fuel a <;> cases run np fuel b <;> intro hr
  · exact ⟨rfl, rfl⟩
  · exact hr.elim
  · exact hr.elim
  · exact ⟨congrArg some hr.1, congrArg some hr.2⟩

local macro "sim_bind " f:term ", " ea:term ", " eb:term " with " ma:ident mb:ident h2:ident : tactic => `(tactic|
  (have hs := $f
   revert hs
   generalize $ea = ra
   generalize $eb = rb
   obtain ⟨oa, $ma:ident⟩ := ra
   obtain ⟨ob, $mb:ident⟩ := rb
   rintro ⟨h1, $h2:ident⟩
   simp only at h1 $h2:ident
   subst h1
   cases oa <;> try exact ⟨rfl, $h2⟩))

end Erase

namespace NormAll

theorem cong : FetchCong fun a b => normAll a = normAll b where
  view := congrArg seen
  log _ h := h
  setDs x := congrArg fun m : Mach => { m with ds := x }
  setRs x := congrArg fun m : Mach => { m with rs := x }
  setLoops x := congrArg fun m : Mach => { m with loops := x }
  setSpecial x := congrArg fun m : Mach => { m with special := x }
  setHeap x := congrArg fun m : Mach => { m with heap := x }
  out _ h := h
  stop h := h
  setIp n := congrArg fun m : Mach => m.setIp n
  nextIp := congrArg nextIp
  ip := congrArg fun m : Mach => m.ctx.ip
  code := congrArg Mach.code
  dict := congrArg Mach.dict
  setCode c := congrArg fun m : Mach => { m with code := c }
  insnLimit := congrArg Mach.insnLimit
  tick h := h

theorem step_sim (np : String → Option Prog) (a b : Mach) (h : normAll a = normAll b) (hl : a.insnLimit = none) :
    (step np a).1 = (step np b).1 ∧ normAll (step np a).2 = normAll (step np b).2 := 
  have r := cong.noLimit.step (a := a) ⟨h, hl⟩ np
  ⟨r.1, r.2.1⟩

local macro "sim_bind " f:term ", " ea:term ", " eb:term " with " ma:ident mb:ident h2:ident : tactic => `(tactic|
  (have hs := $f
   revert hs
   generalize $ea = ra
   generalize $eb = rb
   obtain ⟨oa, $ma:ident⟩ := ra
   obtain ⟨ob, $mb:ident⟩ := rb
   rintro ⟨h1, $h2:ident⟩
   simp only at h1 $h2:ident
   subst h1
   cases oa <;> try exact ⟨rfl, $h2⟩))

end NormAll

namespace NormX

theorem cong : PrimCong fun a b => normX a = normX b where
  view := congrArg seen
  log _ h := h
  setDs x := congrArg fun m : Mach => { m with ds := x }
  setRs x := congrArg fun m : Mach => { m with rs := x }
  setLoops x := congrArg fun m : Mach => { m with loops := x }
  setSpecial x := congrArg fun m : Mach => { m with special := x }
  setHeap x := congrArg fun m : Mach => { m with heap := x }
  out s := congrArg fun m : Mach => { m with out := m.out ++ s }
  stop := congrArg fun m : Mach => { m with aboutToStop := true }
  setIp n h := (normX_setIp _ n).trans (h.trans (normX_setIp _ n).symm)
  nextIp h := (normX_setIp _ _).trans (h.trans (normX_setIp _ _).symm)

theorem setIp_sim (n : Nat) : ∀ a b : Mach, normX a = normX b → normX (a.setIp n) = normX (b.setIp n) :=
  fun _ _ => cong.setIp n

theorem nextIp_sim : ∀ a b : Mach, normX a = normX b → normX a.nextIp = normX b.nextIp := fun _ _ => cong.nextIp

local macro "sim_bind " f:term ", " ea:term ", " eb:term " with " ma:ident mb:ident h2:ident : tactic => `(tactic|
  (have hs := $f
   revert hs
   generalize $ea = ra
   generalize $eb = rb
   obtain ⟨oa, $ma:ident⟩ := ra
   obtain ⟨ob, $mb:ident⟩ := rb
   rintro ⟨h1, $h2:ident⟩
   simp only at h1 $h2:ident
   subst h1
   cases oa <;> try exact ⟨rfl, $h2⟩))

end NormX

end Xeh.Mach
