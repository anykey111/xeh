/-
C13: a word cannot tell a tagged argument from its stripped version (`Blind`, which speaks of runs with
no hidden prefix). `Sim p q` compares `p` on a stack with `q` on the stripped stack; it is closed under the constructors
of `Prog` that the words are made of (`done fail panic pop top depth rawLen rawFrom`, and `push` before `done`).
-/
import XehModel.Proofs.TagStrip
import XehModel.Model.Arith
import XehModel.Proofs.CollSeq

namespace Xeh
open Prog Coll

def StackWF (s : List Cell) : Prop := ∀ c ∈ s, c.TagWF

def Blind (p : Prog) : Prop :=
  ∀ s : List Cell, StackWF s → stripOutcome (p.runStack 0 s) = stripOutcome (p.runStack 0 (s.map Cell.strip))

theorem StackWF.head {c : Cell} {s : List Cell} (h : StackWF (c :: s)) : c.TagWF := h c List.mem_cons_self
theorem StackWF.tail {c : Cell} {s : List Cell} (h : StackWF (c :: s)) : StackWF s :=
  fun x hx => h x (List.mem_cons_of_mem _ hx)

@[simp] theorem map_strip_idem (s : List Cell) : (s.map Cell.strip).map Cell.strip = s.map Cell.strip := by
  rw [List.map_map]; congr 1; funext c; exact strip_idem c

@[simp] theorem stripOutcome_ok (s : List Cell) : stripOutcome (.ok s) = .ok (s.map Cell.strip) := rfl
@[simp] theorem stripOutcome_err (e : Xerr) : stripOutcome (.err e) = .err e.strip := rfl
@[simp] theorem stripOutcome_panic (m : String) : stripOutcome (.panic m) = .panic m := rfl

theorem Xerr.strip_idem (e : Xerr) : e.strip.strip = e.strip := by
  cases e <;> simp only [Xerr.strip, Xeh.strip_idem]

/-- `Blind p` is `Sim p p`. The data of `q` is the stripped data of `p`: `q` fails with `e.strip` where `p` fails with
    `e`, pushes `c.strip` where `p` pushes `c`. -/
def Sim (p q : Prog) : Prop :=
  ∀ s : List Cell, StackWF s → stripOutcome (p.runStack 0 s) = stripOutcome (q.runStack 0 (s.map Cell.strip))

namespace Sim

theorem fail {e e' : Xerr} (h : e.strip = e') : Sim (.fail e) (.fail e') := fun _ _ => by
  subst h; simp only [runStack_fail, stripOutcome_err, Xerr.strip_idem]

theorem panic (m : String) : Sim (.panic m) (.panic m) := fun _ _ => rfl

theorem done : Sim .done .done := fun s _ => by simp only [runStack_done, stripOutcome_ok, map_strip_idem]

/-- nothing is asked of the pushed cells, since the program stops there -/
theorem pushAll_done (l : List Cell) : Sim (pushAll l .done) (pushAll (l.map Cell.strip) .done) := fun s _ => by
  simp only [runStack_pushAll, runStack_done, stripOutcome_ok, ← List.map_reverse, ← List.map_append, map_strip_idem]

theorem push_done {c c' : Cell} (h : c.strip = c') : Sim (.push c .done) (.push c' .done) := h ▸ pushAll_done [c]

theorem pop {k k' : Cell → Prog} (h : ∀ c, c.TagWF → Sim (k c) (k' c.strip)) : Sim (.pop k) (.pop k')
  | [], _ => rfl
  | c :: s, hs => by
    rw [List.map_cons, runStack_pop_cons _ _ _ _ (Nat.zero_le _), runStack_pop_cons _ _ _ _ (Nat.zero_le _)]
    exact h c hs.head s hs.tail

theorem top {k k' : Cell → Prog} (h : ∀ c, c.TagWF → Sim (k c) (k' c.strip)) : Sim (.top k) (.top k')
  | [], _ => rfl
  | c :: s, hs => by
    rw [List.map_cons, runStack_top_cons _ _ _ _ (Nat.zero_le _), runStack_top_cons _ _ _ _ (Nat.zero_le _)]
    exact h c hs.head (c :: s) hs

theorem popN {k k' : Prog} (n : Nat) (h : Sim k k') : Sim (popN n k) (popN n k') := by
  induction n with
  | zero => exact h
  | succ n ih => exact pop fun _ _ => ih

theorem depth {k k' : Nat → Prog} (h : ∀ n, Sim (k n) (k' n)) : Sim (.depth k) (.depth k') := fun s hs => by
  simp only [runStack_depth, List.length_map]; exact h _ s hs

theorem rawLen {k k' : Nat → Prog} (h : ∀ n, Sim (k n) (k' n)) : Sim (.rawLen k) (.rawLen k') := fun s hs => by
  simp only [runStack_rawLen, List.length_map]; exact h _ s hs

theorem rawFrom {p : Nat} {k k' : List Cell → Prog} (h : ∀ l, Sim (k l) (k' (l.map Cell.strip))) :
    Sim (.rawFrom p k) (.rawFrom p k') := fun s hs => by
  simp only [runStack_rawFrom, ← List.map_reverse, ← List.map_drop]; exact h _ s hs

theorem ite {c : Prop} [Decidable c] {p q p' q' : Prog} (h : Sim p p') (h' : Sim q q') :
    Sim (if c then p else q) (if c then p' else q') := by
  split
  · exact h
  · exact h'

end Sim

/-- an accessor's result on the stripped cell; `f` is written `fun i => i` where stripping leaves the value alone, so
    that `Sim.ofOutcome` hands both continuations `i` and not `i` and `id i` -/
def Outcome.mapStrip (f : α → β) : Outcome α → Outcome β
  | .ok a => .ok (f a)
  | .err e => .err e.strip
  | .panic m => .panic m

theorem Sim.ofOutcome {o : Outcome α} {o' : Outcome β} {f : α → β} {k : α → Prog} {k' : β → Prog}
    (ho : o' = o.mapStrip f) (h : ∀ a, o = .ok a → Sim (k a) (k' (f a))) : Sim (ofOutcome o k) (ofOutcome o' k') := by
  subst ho
  cases o
  · exact h _ rfl
  · exact Sim.fail rfl
  · exact Sim.panic _

theorem shape_value {c : Cell} (h : TopWF c) : Shape c.value c.strip.value :=
  (strip_value_self c).symm ▸ shape_of_topWF h

/-- split on the constructor of `c.value`, which is that of `c.strip.value` -/
macro "shape_cases " c:term " , " h:term " with " hv:ident hs:ident : tactic => `(tactic| (
  have sc := shape_value $h
  generalize $hv:ident : Cell.value $c = cv, $hs:ident : Cell.value (Cell.strip $c) = cs at sc ⊢
  cases sc))

theorem toXint_strip {c : Cell} (h : TopWF c) : c.strip.toXint = c.toXint.mapStrip fun i => i := by
  unfold Cell.toXint; shape_cases c, h with hv hs <;> rfl

theorem toReal_strip {c : Cell} (h : TopWF c) : c.strip.toReal = c.toReal.mapStrip fun i => i := by
  unfold Cell.toReal; shape_cases c, h with hv hs <;> rfl

theorem toVec_strip {c : Cell} (h : TopWF c) : c.strip.toVec = c.toVec.mapStrip CellList.strip := by
  unfold Cell.toVec; shape_cases c, h with hv hs <;> rfl

theorem toBool_strip {c : Cell} (h : TopWF c) : c.strip.toBool = c.toBool.mapStrip fun i => i := by
  unfold Cell.toBool; shape_cases c, h with hv hs <;> rfl

theorem toIsize_strip {c : Cell} (h : TopWF c) : c.strip.toIsize = c.toIsize.mapStrip fun i => i := by
  unfold Cell.toIsize; shape_cases c, h with hv hs
  case int i => dsimp only; split <;> rfl
  all_goals rfl

theorem toUsize_strip {c : Cell} (h : TopWF c) : c.strip.toUsize = c.toUsize.mapStrip fun i => i := by
  unfold Cell.toUsize; shape_cases c, h with hv hs
  case int i => dsimp only; split; rfl; split <;> rfl
  all_goals rfl

theorem Sim.numMatch {b : Cell} (hb : TopWF b) {p q : Int → Prog} {p' q' : UInt64 → Prog}
    (hi : ∀ i, Sim (p i) (q i)) (hr : ∀ r, Sim (p' r) (q' r)) :
    Sim (match b.value with | .int i => p i | .real r => p' r | _ => .fail (numErr b))
      (match b.strip.value with | .int i => q i | .real r => q' r | _ => .fail (numErr b.strip)) := by
  shape_cases b, hb with hv hs
  case int i => exact hi i
  case real r => exact hr r
  all_goals exact Sim.fail rfl

theorem blind_arithOpsReal (fi fr) : Blind (arithOpsReal fi fr) :=
  Sim.pop fun _ hb => Sim.pop fun _ ha => Sim.numMatch hb.top
    (fun _ => Sim.ofOutcome (toXint_strip ha.top) fun _ _ => Sim.push_done rfl)
    (fun _ => Sim.ofOutcome (toReal_strip ha.top) fun _ _ => Sim.push_done rfl)

theorem blind_arithOpsInt (fi) : Blind (arithOpsInt fi) :=
  Sim.pop fun _ hb => Sim.ofOutcome (toXint_strip hb.top) fun _ _ =>
  Sim.pop fun _ ha => Sim.ofOutcome (toXint_strip ha.top) fun _ _ => Sim.push_done rfl

theorem blind_wordDiv : Blind wordDiv :=
  Sim.pop fun _ hb => Sim.pop fun _ ha => Sim.numMatch hb.top
    (fun _ => Sim.ofOutcome (toXint_strip ha.top) fun _ _ =>
      Sim.ite (Sim.fail rfl) (Sim.ite (Sim.push_done rfl) (Sim.fail rfl)))
    (fun _ => Sim.ofOutcome (toReal_strip ha.top) fun _ _ => Sim.ite (Sim.fail rfl) (Sim.push_done rfl))

theorem blind_wordRem : Blind wordRem :=
  Sim.pop fun _ hb => Sim.pop fun _ ha => Sim.numMatch hb.top
    (fun _ => Sim.ofOutcome (toXint_strip ha.top) fun _ _ => Sim.ite (Sim.fail rfl) (Sim.push_done rfl))
    (fun _ => Sim.ofOutcome (toReal_strip ha.top) fun _ _ => Sim.push_done rfl)

theorem blind_wordCmp (t) : Blind (wordCmp t) :=
  Sim.pop fun _ hb => Sim.pop fun _ ha => Sim.numMatch hb.top
    (fun _ => Sim.ofOutcome (toXint_strip ha.top) fun _ _ => Sim.push_done rfl)
    (fun _ => Sim.ofOutcome (toReal_strip ha.top) fun _ _ => Sim.push_done rfl)

theorem blind_wordLogic (f) : Blind (wordLogic f) :=
  Sim.pop fun _ hb => Sim.pop fun _ ha => Sim.ofOutcome (toBool_strip ha.top) fun _ _ =>
  Sim.ofOutcome (toBool_strip hb.top) fun _ _ => Sim.push_done rfl

theorem blind_wordNeg : Blind wordNeg :=
  Sim.pop fun _ ha => Sim.numMatch ha.top (fun _ => Sim.ite (Sim.push_done rfl) (Sim.fail rfl)) fun _ => Sim.push_done rfl

theorem blind_wordAbs : Blind wordAbs :=
  Sim.pop fun _ ha => Sim.numMatch ha.top (fun _ => Sim.ite (Sim.push_done rfl) (Sim.fail rfl)) fun _ => Sim.push_done rfl

theorem blind_wordNumTest (ti tr) : Blind (wordNumTest ti tr) :=
  Sim.pop fun _ ha => Sim.numMatch ha.top (fun _ => Sim.push_done rfl) fun _ => Sim.push_done rfl

theorem blind_wordNot : Blind wordNot :=
  Sim.pop fun _ ha => Sim.ofOutcome (toBool_strip ha.top) fun _ _ => Sim.push_done rfl
theorem blind_wordBnot : Blind wordBnot :=
  Sim.pop fun _ ha => Sim.ofOutcome (toXint_strip ha.top) fun _ _ => Sim.push_done rfl
theorem blind_wordPopcnt : Blind wordPopcnt :=
  Sim.pop fun _ ha => Sim.ofOutcome (toXint_strip ha.top) fun _ _ => Sim.push_done rfl
theorem blind_wordRound : Blind wordRound :=
  Sim.pop fun _ ha => Sim.ofOutcome (toReal_strip ha.top) fun _ _ => Sim.push_done rfl

theorem blind_wordIntoReal : Blind wordIntoReal := Sim.top fun t ht => by
  shape_cases t, ht.top with hv hs
  case real => exact Sim.done
  all_goals exact Sim.pop fun _ ha => Sim.ofOutcome (toXint_strip ha.top) fun _ _ => Sim.push_done rfl

theorem blind_wordIntoInt : Blind wordIntoInt := Sim.top fun t ht => by
  shape_cases t, ht.top with hv hs
  case int => exact Sim.done
  all_goals exact Sim.pop fun _ ha => Sim.ofOutcome (toReal_strip ha.top) fun _ _ => Sim.push_done rfl

theorem blind_wordInsert : Blind wordInsert :=
  Sim.pop fun k hk => Sim.pop fun v _ => Sim.pop fun c hc => by
    shape_cases c, hc.top with hv hs
    case map m => exact Sim.push_done (congrArg Cell.map (PairList.insert_strip m k v hk.top (TagWF_map hc hv)))
    all_goals exact Sim.fail rfl

theorem blind_wordRemove : Blind wordRemove :=
  Sim.pop fun k hk => Sim.pop fun c hc => by
    shape_cases c, hc.top with hv hs
    case map m => exact Sim.push_done (congrArg Cell.map (PairList.erase_strip m k hk.top (TagWF_map hc hv)))
    all_goals exact Sim.fail rfl

theorem blind_wordGet : Blind wordGet :=
  Sim.pop fun k hk => Sim.pop fun c hc => by
    shape_cases c, hc.top with hv hs
    case vec xs =>
      refine Sim.ofOutcome (toUsize_strip hk.top) fun idx _ => ?_
      rw [CellList.strip_toList, List.getElem?_map, CellList.strip_length]
      cases xs.toList[idx]?
      · exact Sim.fail rfl
      · exact Sim.push_done rfl
    case map m => exact Sim.push_done (PairList.lookup_strip m k hk.top (TagWF_map hc hv))
    all_goals exact Sim.fail rfl

theorem blind_wordLength : Blind wordLength :=
  Sim.pop fun c hc => by
    shape_cases c, hc.top with hv hs
    case vec xs => exact Sim.push_done (congrArg natCell (CellList.strip_length xs).symm)
    case str => exact Sim.push_done rfl
    case bitstr => exact Sim.push_done rfl
    all_goals exact Sim.fail rfl

theorem blind_wordNth : Blind wordNth :=
  Sim.pop fun _ hi => Sim.ofOutcome (toIsize_strip hi.top) fun i _ =>
  Sim.pop fun _ hc => Sim.ofOutcome (toVec_strip hc.top) fun v _ => by
    simp only [CellList.strip_length, CellList.strip_toList, List.getElem?_map]
    cases relativeIndex v.length i with
    | none => exact Sim.fail rfl
    | some a =>
      dsimp only
      cases v.toList[a]?
      · exact Sim.fail rfl
      · exact Sim.push_done rfl

theorem blind_wordSlice : Blind wordSlice :=
  Sim.pop fun _ he => Sim.ofOutcome (toXint_strip he.top) fun ei _ =>
  Sim.pop fun _ hs => Sim.ofOutcome (toXint_strip hs.top) fun si _ =>
  Sim.pop fun c hc => by
    shape_cases c, hc.top with hv hs
    case vec xs =>
      exact Sim.push_done (by rw [Cell.strip, CellList.strip_ofList, ← sliceList_map, CellList.strip_toList])
    case str => exact Sim.push_done rfl
    all_goals exact Sim.fail rfl

theorem blind_wordSort : Blind wordSort :=
  Sim.pop fun _ hc => Sim.ofOutcome (toVec_strip hc.top) fun v hv =>
    Sim.push_done (congrArg Cell.vec (sort_strip v (TagWF_vec hc hv)))

theorem blind_wordReverse : Blind wordReverse :=
  Sim.pop fun _ hc => Sim.ofOutcome (toVec_strip hc.top) fun v _ =>
    Sim.push_done (by rw [Cell.strip, CellList.strip_ofList, List.map_reverse, CellList.strip_toList])

theorem blind_wordUnbox : Blind wordUnbox :=
  Sim.pop fun _ hc => Sim.ofOutcome (toVec_strip hc.top) fun v _ => CellList.strip_toList v ▸ Sim.pushAll_done _

theorem blind_wordPush : Blind wordPush :=
  Sim.pop fun _ hc => Sim.ofOutcome (toVec_strip hc.top) fun v _ => Sim.pop fun x _ =>
    Sim.push_done (by rw [Cell.strip, CellList.strip_ofList, List.map_append, CellList.strip_toList]; rfl)

theorem blind_wordCollect : Blind wordCollect :=
  Sim.pop fun _ hn => Sim.ofOutcome (toUsize_strip hn.top) fun n _ =>
  Sim.depth fun _ => Sim.ite (Sim.fail rfl) <| Sim.rawLen fun _ => Sim.rawFrom fun cells =>
  Sim.popN n (Sim.push_done (congrArg Cell.vec (CellList.strip_ofList cells)))

theorem blind_wordIs (t : Cell → Bool) (ht : ∀ c, TopWF c → t c.strip = t c) : Blind (wordIs t) :=
  Sim.pop fun c hc => Sim.push_done (congrArg Cell.flag (ht c hc.top).symm)

theorem isNil_strip (c : Cell) (h : TopWF c) : isNil c.strip = isNil c := by
  unfold isNil; shape_cases c, h with hv hs <;> rfl
theorem isBool_strip (c : Cell) (h : TopWF c) : isBool c.strip = isBool c := by
  unfold isBool; shape_cases c, h with hv hs <;> rfl
theorem isInt_strip (c : Cell) (h : TopWF c) : isInt c.strip = isInt c := by
  unfold isInt; shape_cases c, h with hv hs <;> rfl
theorem isReal_strip (c : Cell) (h : TopWF c) : isReal c.strip = isReal c := by
  unfold isReal; shape_cases c, h with hv hs <;> rfl
theorem isStr_strip (c : Cell) (h : TopWF c) : isStr c.strip = isStr c := by
  unfold isStr; shape_cases c, h with hv hs <;> rfl
theorem isBitstr_strip (c : Cell) (h : TopWF c) : isBitstr c.strip = isBitstr c := by
  unfold isBitstr; shape_cases c, h with hv hs <;> rfl
theorem isVec_strip (c : Cell) (h : TopWF c) : isVec c.strip = isVec c := by
  unfold isVec; shape_cases c, h with hv hs <;> rfl

end Xeh
