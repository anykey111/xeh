/- An opcode is reversible effects followed, on success, by one `SetIp` (`Shape`); a step is that after the count and
   the patch of a `Resolve` (`Pre`, `StepShape`); undoing the logged effects stops at the previous `SetIp`
   (`undoSeg_app`).  Only `step_frame`, at the end, uses the meter and bound lemmas of `VMMeter` and `VMBound`. -/
import XehModel.Proofs.VMMeter
import XehModel.Proofs.VMBound

namespace Xeh.Mach

inductive Shape (m : Mach) (r : R Unit) : Prop where
  | fail (seg : List RStep) (mp : Mach) (h : Rev m mp seg) (e : r.2 = mp) (ne : r.1 ≠ .ok ()) : Shape m r
  | done (seg : List RStep) (mp : Mach) (n : Nat) (h : Rev m mp seg) (e : r = (.ok (), mp.setIp n)) : Shape m r

theorem exec_shape (np : String → Option Prog) (m : Mach) (op : Op) (w : WF m) :
    Shape m (exec np m m.ctx.ip op) := by
  obtain ⟨seg, r⟩ := revWalk.execBody np m m.ctx.ip op w
  rw [exec_eq]
  rcases R.cases (execBody np m m.ctx.ip op) with ⟨d, m1, h⟩ | ⟨e, m1, h⟩ | ⟨s, m1, h⟩ <;> rw [h] at r ⊢
  · cases d
    · exact .done _ _ _ r rfl
    · exact .done _ _ _ r rfl
  · exact .fail _ _ r rfl (by simp)
  · exact .fail _ _ r rfl (by simp)

/-- `m0` is `m` after the fetch part of `step`: same core and log, meter +1 or +2, code patched only if `m.code[ip]` is a
    `Resolve` and the machine is not in a meta block -/
structure Pre (m m0 : Mach) : Prop where
  core : m0.core = m.core
  log : m0.log = m.log
  insnLimit : m0.insnLimit = m.insnLimit
  stackLimit : m0.stackLimit = m.stackLimit
  heapLimit : m0.heapLimit = m.heapLimit
  dict : m0.dict = m.dict
  codeLen : m0.code.length = m.code.length
  code : (∀ name, m.code[m.ctx.ip]? ≠ some (.resolve name)) → m0.code = m.code
  /-- inside a meta block even a `Resolve` leaves the code alone -/
  codeMeta : m.ctx.mode = .metaEval → m0.code = m.code
  meterLo : m.meter < m0.meter
  meterHi : m0.meter ≤ m.meter + 2
  meterLim : ∀ N, m.insnLimit = some N → m0.meter ≤ N

theorem Pre.wf {m m0 : Mach} (p : Pre m m0) (w : WF m) : WF m0 := w.of_core p.core

/-- `early`: it stopped before executing anything (limit, bad ip, unknown late word) with at most the meter advanced;
    `lims` is (stack limit, instruction limit), `rest` is (dictionary, heap limit, code length, code in a meta block) -/
inductive StepShape (m : Mach) (r : R Unit) : Prop where
  | early (h : r.2.core = m.core) (hl : r.2.log = m.log) (ne : r.1 ≠ .ok ())
      (hm : m.meter ≤ r.2.meter ∧ r.2.meter ≤ m.meter + 1) (hN : ∀ N, m.insnLimit = some N → m.meter ≤ N → r.2.meter ≤ N)
      (lims : r.2.stackLimit = m.stackLimit ∧ r.2.insnLimit = m.insnLimit)
      (rest : r.2.dict = m.dict ∧ r.2.heapLimit = m.heapLimit ∧ r.2.code.length = m.code.length ∧
        (m.ctx.mode = .metaEval → r.2.code = m.code)) : StepShape m r
  | exec (m0 : Mach) (p : Pre m m0) (s : Shape m0 r) : StepShape m r

theorem step_shape (np : String → Option Prog) (m : Mach) (w : WF m) :
    StepShape m (step np m) := by
  unfold step
  simp only
  rcases meterIncrease_cases m with ⟨e, h1⟩ | ⟨h1, hlt1⟩ <;> simp only [h1]
  · exact .early rfl rfl (by simp) ⟨Nat.le_refl _, Nat.le_succ _⟩ (fun _ _ h => h) ⟨rfl, rfl⟩ ⟨rfl, rfl, rfl, fun _ => rfl⟩
  have early1 : ∀ (o : Outcome Unit), o ≠ .ok () → StepShape m (o, { m with meter := m.meter + 1 }) :=
    fun o ho => .early rfl rfl ho ⟨Nat.le_succ _, Nat.le_refl _⟩ (fun N hN _ => hlt1 N hN) ⟨rfl, rfl⟩ ⟨rfl, rfl, rfl, fun _ => rfl⟩
  have pre1 : Pre m { m with meter := m.meter + 1 } :=
    ⟨rfl, rfl, rfl, rfl, rfl, rfl, rfl, fun _ => rfl, fun _ => rfl, Nat.lt_succ_self _, Nat.le_succ _, hlt1⟩
  split
  · exact early1 _ (by simp)
  · rename_i name hop
    split
    · exact early1 _ (by simp)
    · exact early1 _ (by simp)
    · rename_i op hres
      obtain ⟨cp, hcp, hcl, hcm⟩ := patchCode_eq { m with meter := m.meter + 1 } m.ctx.ip op
      rw [hcp]
      rcases meterIncrease_cases { m with meter := m.meter + 1, code := cp } with ⟨e, h2⟩ | ⟨h2, hlt2⟩ <;> simp only [h2]
      · exact .early rfl rfl (by simp) ⟨Nat.le_succ _, Nat.le_refl _⟩ (fun N hN _ => hlt1 N hN) ⟨rfl, rfl⟩ ⟨rfl, rfl, hcl, hcm⟩
      · have pre2 : Pre m { m with meter := m.meter + 1 + 1, code := cp } :=
          ⟨rfl, rfl, rfl, rfl, rfl, rfl, hcl, fun hno => absurd hop (hno name), hcm,
           Nat.lt_succ_of_lt (Nat.lt_succ_self _), Nat.le_refl _, hlt2⟩
        exact .exec _ pre2 (exec_shape np _ op (pre2.wf w))
  · rename_i op _ hop
    exact .exec _ pre1 (exec_shape np _ op (pre1.wf w))

def LogHead : List RStep → Prop
  | [] => True
  | s :: _ => isSetIp s = true

theorem undoSeg_app (seg ℓ : List RStep) (c c' : Core)
    (hn : ∀ s ∈ seg, isSetIp s = false) (hu : undoList seg c = .ok c') (hℓ : LogHead ℓ) :
    undoSeg (seg ++ ℓ) c = (.ok (), c', ℓ) := by
  induction seg generalizing c with
  | nil =>
    simp [undoList] at hu
    subst hu
    cases ℓ with
    | nil => simp [undoSeg]
    | cons s rest =>
      cases s <;> simp [LogHead, isSetIp] at hℓ
      simp [undoSeg]
  | cons s rest ih =>
    have hs : isSetIp s = false := hn s (by simp)
    simp only [undoList] at hu
    split at hu
    · rename_i c1 heq
      have := ih c1 (fun s hs' => hn s (by simp [hs'])) hu
      cases s <;> simp [isSetIp] at hs <;> simp only [List.cons_append, undoSeg, heq] <;> exact this
    · cases hu
    · cases hu

variable (np : String → Option Prog)

theorem step_frame (m : Mach) (w : WF m) :
    ((step np m).2.insnLimit = m.insnLimit ∧ (step np m).2.stackLimit = m.stackLimit) ∧
    (∀ N, m.insnLimit = some N → m.meter ≤ N → (step np m).2.meter ≤ N) ∧
    (∀ S, m.stackLimit = some S → (step np m).2.ds.length ≤ max S m.ds.length) ∧
    (step np m).2.heap.length = m.heap.length ∧
    ((step np m).1 = .ok () → m.meter < (step np m).2.meter) ∧
    WF (step np m).2 := by
  have hm := step_mle np m
  have hb := step_bnd np m
  refine ⟨⟨hm.limit, hb.1⟩, hm.bound, hb.2.2.2.1, hb.2.2.1, ?_⟩
  cases step_shape np m w with
  | early hc _ ne => exact ⟨fun h => absurd h ne, w.of_core hc⟩
  | exec m0 p s =>
    cases s with
    | fail seg mp rv e ne => rw [e]; exact ⟨fun h => absurd h ne, rv.wf (p.wf w)⟩
    | done seg mp n rv e =>
      rw [e]
      have wmp := rv.wf (p.wf w)
      exact ⟨fun _ => rv.fr.meter ▸ p.meterLo, wmp.ds, wmp.rs, wmp.ls, wmp.ss⟩

end Xeh.Mach
