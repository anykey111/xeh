/-
Two sessions that agree on everything except the instruction meter, the about-to-stop flag and a fixed prefix of the
captured output behave alike: every function of the session model, up to a whole `build_from_source`, returns the same
kind of answer, with the same error, in sessions again so related.  (No instruction limit: with a limit the meter is not
a ghost.)  Every entry point overwrites the last-token marker before reading it, so sessions that differ in it as well
behave alike too (`GSt`).
-/
import XehModel.Proofs.SessionLoop
import XehModel.Proofs.VMGhost
import XehModel.Proofs.VMMeter

namespace Xeh.Session
open Xeh Xeh.Mach Xeh.Compile Xeh.Session.Sess

/-- `s` is `t` with another meter and stop flag and with `pre` in front of the output (`s.m.out = pre ++ t.m.out`), and `s`
    has no instruction limit; spelled out field by field in `GS.spec` / `GS.ofSpec` -/
def GS (pre : List Char) (s t : Sess) : Prop :=
  normA s.m = normB pre t.m ∧ s.dmap = t.dmap ∧ s.flows = t.flows ∧ s.nested = t.nested ∧ s.constUndo = t.constUndo ∧
  s.lastTok = t.lastTok ∧ s.m.insnLimit = none

variable {pre : List Char}

theorem GS.limit {s t : Sess} (h : GS pre s t) : s.m.insnLimit = none := h.2.2.2.2.2.2

/-- A relation of the form "equal once the ghost fields are erased" (`eA` on the left, `eB` on the right) is kept by a
    function whose result, up to the ghost fields, does not depend on them. -/
theorem erase_map {eA eB : Sess → Sess} (F : Sess → Sess) (hA : ∀ s, eA (F s) = eA (F (eA s)))
    (hB : ∀ t, eB (F t) = eA (F (eB t))) {s t : Sess} (h : eA s = eB t) : eA (F s) = eB (F t) := by
  rw [hA, h, ← hB]

theorem erase_map₂ {eA eB : Sess → Sess} (F : Sess → Sess → Sess) (hA : ∀ a s, eA (F a s) = eA (F (eA a) (eA s)))
    (hB : ∀ b t, eB (F b t) = eA (F (eB b) (eB t))) {a b s t : Sess} (hab : eA a = eB b) (h : eA s = eB t) :
    eA (F a s) = eB (F b t) := by
  rw [hA, hab, h, ← hB]

def eraseA (s : Sess) : Sess := { s with m := normA s.m }
def eraseB (pre : List Char) (t : Sess) : Sess := { t with m := normB pre t.m }

theorem gs_iff {s t : Sess} : GS pre s t ↔ eraseA s = eraseB pre t ∧ s.m.insnLimit = none := by
  simp only [GS, eraseA, eraseB, Sess.mk.injEq, and_assoc]

theorem GS.map {s t : Sess} (h : GS pre s t) (F : Sess → Sess)
    (hA : ∀ s, eraseA (F s) = eraseA (F (eraseA s)) := by intro _; rfl)
    (hB : ∀ t, eraseB pre (F t) = eraseA (F (eraseB pre t)) := by intro _; rfl)
    (hl : ∀ s, (F s).m.insnLimit = s.m.insnLimit := by intro _; rfl) : GS pre (F s) (F t) := by
  obtain ⟨e, l⟩ := gs_iff.mp h
  exact gs_iff.mpr ⟨erase_map F hA hB e, by rw [hl]; exact l⟩

theorem GS.map₂ {a b s t : Sess} (hab : GS pre a b) (h : GS pre s t) (F : Sess → Sess → Sess)
    (hA : ∀ a s, eraseA (F a s) = eraseA (F (eraseA a) (eraseA s)) := by intro _ _; rfl)
    (hB : ∀ b t, eraseB pre (F b t) = eraseA (F (eraseB pre b) (eraseB pre t)) := by intro _ _; rfl)
    (hl : ∀ a s, (F a s).m.insnLimit = s.m.insnLimit := by intro _ _; rfl) : GS pre (F a s) (F b t) :=
  gs_iff.mpr ⟨erase_map₂ F hA hB (gs_iff.mp hab).1 (gs_iff.mp h).1, by rw [hl]; exact (gs_iff.mp h).2⟩

theorem gs_mk {a b : Mach} {d : List Nat} {f : List Flow} {n : List Ctx} {c : List (Nat × Cell)} {l : Nat}
    (h : normA a = normB pre b) (hl : a.insnLimit = none) :
    GS pre ⟨a, d, f, n, c, l⟩ ⟨b, d, f, n, c, l⟩ := ⟨h, rfl, rfl, rfl, rfl, rfl, hl⟩

theorem gs_withM {s t : Sess} (h : GS pre s t) {a b : Mach} (hab : normA a = normB pre b) (hl : a.insnLimit = none) :
    GS pre { s with m := a } { t with m := b } := by
  obtain ⟨_, a2, a3, a4, a5, a6, _⟩ := h
  exact ⟨hab, a2, a3, a4, a5, a6, hl⟩

theorem gs_toC (s t : Sess) (h : GS pre s t) : s.toC = t.toC :=
  show (eraseA s).toC = (eraseB pre t).toC from congrArg Sess.toC (gs_iff.mp h).1

theorem gs_setTok (s t : Sess) (h : GS pre s t) (i : Nat) : GS pre { s with lastTok := i } { t with lastTok := i } :=
  h.map (fun x => { x with lastTok := i })

theorem gs_ofC (s t : Sess) (h : GS pre s t) (r : CRes CState) : SRes.Rel (GS pre) (GS pre) (s.ofC r) (t.ofC r) := by
  cases r with
  | ok c => exact h.map (·.fromC c)
  | err e c => exact ⟨rfl, h.map (fun x => { (x.fromC c) with lastTok := e.tok })⟩
  | unsupported u => exact rfl

theorem popData_limit (a : Mach) : a.popData.2.insnLimit = a.insnLimit := (popData_keeps a).2

theorem ghost_runS {G : Sess → Sess → Prop} (s t : Sess) (fuel : Nat) (hm : normA s.m = normB pre t.m)
    (hl : s.m.insnLimit = none)
    (hw : ∀ a b, normA a = normB pre b → a.insnLimit = none → G { s with m := a } { t with m := b }) :
    SRes.Rel G G (s.runS fuel) (t.runS fuel) := by
  have hr := Ghost.run_sim nativeProg fuel s.m t.m hm hl
  refine runS_rel s t fuel ?_ (fun o a o' b e1 e2 => ?_)
  · rcases hx : Mach.run nativeProg fuel s.m with _ | ra <;> rcases hy : Mach.run nativeProg fuel t.m with _ | rb <;>
      rw [hx, hy] at hr <;> first | exact hr.elim | simp
  · rw [e1, e2] at hr
    have g := hw a b hr.2 (by rw [(run_mle nativeProg fuel s.m _ e1).limit]; exact hl)
    exact ⟨hr.1, g, g⟩

theorem gs_runS (s t : Sess) (h : GS pre s t) (fuel : Nat) : SRes.Rel (GS pre) (GS pre) (s.runS fuel) (t.runS fuel) :=
  ghost_runS s t fuel h.1 h.limit (fun _ _ => gs_withM h)

theorem gs_congruence : Congruence (GS pre) where
  ctx h := (Ghost.ds_eq _ _ h.1).2.1
  dict h := (Ghost.ds_eq _ _ h.1).2.2.2.2.2.2.2.1
  flows h := h.2.2.1
  nested h := h.2.2.2.1
  undo h := h.2.2.2.2.1
  run h := gs_runS _ _ h
  popData h := ⟨(Ghost.popData_sim _ _ h.1).1,
    gs_withM h (Ghost.popData_sim _ _ h.1).2 (by rw [popData_limit]; exact h.limit)⟩
  emit h op := h.map (·.emit op)
  contextOpen h mode := h.map (·.contextOpen mode)
  setNested h n := h.map (fun x => { x with nested := n })
  setCtx h c := h.map (fun x => { x with m := { x.m with ctx := c } })
  closed h prev := h.map (·.closed prev)
  setDict h d u := h.map (fun x => { x with m := { x.m with dict := d }, constUndo := u })
  compile h k := by rw [gs_toC _ _ h]; exact gs_ofC _ _ h _

theorem gs_closeMeta {s t : Sess} (h : GS pre s t) :
    GS pre { s with m := { s.m with code := s.m.code.take s.m.ctx.csLen, dict := purge s.m.dict s.m.ctx.diLen },
                    dmap := s.dmap.take s.m.ctx.csLen }
           { t with m := { t.m with code := t.m.code.take t.m.ctx.csLen, dict := purge t.m.dict t.m.ctx.diLen },
                    dmap := t.dmap.take t.m.ctx.csLen } :=
  h.map fun x => { x with m := { x.m with code := x.m.code.take x.m.ctx.csLen, dict := purge x.m.dict x.m.ctx.diLen },
                          dmap := x.dmap.take x.m.ctx.csLen }

theorem gs_setDict {s t : Sess} (h : GS pre s t) (d : List (String × Entry)) (u : List (Nat × Cell)) :
    GS pre { s with m := { s.m with dict := d }, constUndo := u } { t with m := { t.m with dict := d }, constUndo := u } :=
  gs_congruence.setDict h d u

theorem gs_setDict' {s t : Sess} (h : GS pre s t) (d : List (String × Entry)) :
    GS pre { s with m := { s.m with dict := d } } { t with m := { t.m with dict := d } } :=
  h.map (fun x => { x with m := { x.m with dict := d } })

local macro "m_cases " h:ident a:ident b:ident : tactic => `(tactic|
  (cases $a:ident; cases $b:ident
   simp only [normA, normB, Mach.mk.injEq, true_and, and_true] at $h:ident
   obtain ⟨m1, m2, m3, m4, m5, m6, m7, m8, m9, m10, m11, m12, m13⟩ := $h
   subst_vars))

/-- afterwards `s = ⟨sm, d, f, n, c, l⟩`, `t = ⟨tm, d, f, n, c, l⟩` -/
local macro "gs_half " h:ident s:ident t:ident " with " sm:ident tm:ident hm:ident hl:ident : tactic => `(tactic|
  (obtain ⟨$hm:ident, h2, h3, h4, h5, h6, $hl:ident⟩ := $h
   obtain ⟨$sm:ident, _, _, _, _, _⟩ := $s
   obtain ⟨$tm:ident, _, _, _, _, _⟩ := $t
   simp only at $hm:ident h2 h3 h4 h5 h6 $hl:ident
   subst h2 h3 h4 h5 h6))

theorem gs_tokens (fuel depth : Nat) (toks : List Tok) (idx : Nat) (s t : Sess) (h : GS pre s t) :
    SRes.Rel (GS pre) (GS pre) (tokens fuel depth toks idx s) (tokens fuel depth toks idx t) :=
  gs_congruence.tokens fuel depth Eq (fun _ _ e => by rw [e]) (fun i _ s t e h => e ▸ gs_setTok s t h i) toks idx idx s t rfl h

def GSt (pre : List Char) (s t : Sess) : Prop := GS pre { s with lastTok := 0 } { t with lastTok := 0 }

theorem GS.toGSt {s t : Sess} (h : GS pre s t) : GSt pre s t := gs_setTok s t h 0

theorem gs_unwind {ms mt s t : Sess} (hmk : GSt pre ms mt) (h : GS pre s t) : GS pre (unwind ms s) (unwind mt t) :=
  GS.map₂ hmk h unwind

theorem gs_dropUndo {s t : Sess} (h : GS pre s t) (n : Nat) :
    GS pre { s with constUndo := s.constUndo.drop (s.constUndo.length - n) } { t with constUndo := t.constUndo.drop (t.constUndo.length - n) } :=
  h.map (fun x => { x with constUndo := x.constUndo.drop (x.constUndo.length - n) })

theorem gs_forget {ms mt s t : Sess} (hmk : GSt pre ms mt) (h : GS pre s t) (n : Nat) :
    GS pre { s with constUndo := s.constUndo.drop (s.constUndo.length - n), m := forgetBuildLog ms.m s.m }
           { t with constUndo := t.constUndo.drop (t.constUndo.length - n), m := forgetBuildLog mt.m t.m } :=
  GS.map₂ hmk h (fun a x => { x with constUndo := x.constUndo.drop (x.constUndo.length - n), m := forgetBuildLog a.m x.m })

theorem gs_buildSource (fuel : Nat) (mode : Mode) (hmode : mode ≠ .metaEval) (toks : List Tok) (s t : Sess)
    (h : GSt pre s t) : BRes.Rel (GS pre) (s.buildSource fuel mode toks) (t.buildSource fuel mode toks) := by
  have hb : SRes.Rel (GS pre) (GS pre) ((s.contextOpen mode).build1 fuel toks) ((t.contextOpen mode).build1 fuel toks) := by
    have e1 : ∀ x : Sess, (x.contextOpen mode).build1 fuel toks =
        tokens fuel (x.nested.length + 1) toks 0 (({ x with lastTok := 0 } : Sess).contextOpen mode) := by
      intro x
      unfold Sess.build1
      rw [metaRun_noop _ fuel (show (x.contextOpen mode).m.ctx.mode ≠ .metaEval from hmode)]
      exact (tokens_tok fuel _ toks 0 0 (x.contextOpen mode)).symm
    rw [e1 s, e1 t, show s.nested.length = t.nested.length from by rw [show s.nested = t.nested from h.2.2.2.1]]
    exact gs_tokens fuel _ toks 0 _ _ (gs_congruence.contextOpen h mode)
  have hcu : s.constUndo = t.constUndo := h.2.2.2.2.1
  unfold Sess.buildSource
  simp only
  generalize (s.contextOpen mode).build1 fuel toks = ra at hb
  generalize (t.contextOpen mode).build1 fuel toks = rb at hb
  refine hb.cases (fun s2 t2 g => ?_) (fun e _ _ g => ⟨rfl, gs_unwind h g⟩) (fun p _ _ g => ⟨rfl, g⟩) (fun _ => rfl) trivial
  have h2 := gs_congruence.contextClose (gs_forget h g s.constUndo.length) fuel
  dsimp only
  rw [← hcu]
  generalize Sess.contextClose fuel _ = ra at h2
  generalize Sess.contextClose fuel _ = rb at h2
  exact h2.cases (fun _ _ g => g) (fun _ _ _ g => ⟨rfl, g⟩) (fun _ _ _ g => ⟨rfl, g⟩) (fun _ => rfl) trivial

theorem gs_abortRun {s t : Sess} (h : GS pre s t) : GS pre s.abortRun t.abortRun := h.map Sess.abortRun

theorem GS.spec {s t : Sess} (h : GS pre s t) :
    s.m.out = pre ++ t.m.out ∧
    s = { t with m := { t.m with meter := s.m.meter, out := s.m.out, aboutToStop := s.m.aboutToStop } } := by
  gs_half h s t with sm tm hm hl
  m_cases hm sm tm
  simp

theorem GS.ofSpec {s t : Sess} (hl : t.m.insnLimit = none) (ho : s.m.out = pre ++ t.m.out)
    (he : s = { t with m := { t.m with meter := s.m.meter, out := s.m.out, aboutToStop := s.m.aboutToStop } }) : GS pre s t := by
  obtain ⟨sm, _, _, _, _, _⟩ := s
  obtain ⟨tm, _, _, _, _, _⟩ := t
  cases sm; cases tm
  simp only [Sess.mk.injEq, Mach.mk.injEq] at he ho hl
  simp_all [GS, normA, normB]

end Xeh.Session
