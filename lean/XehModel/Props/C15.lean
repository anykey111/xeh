/-
C15 — how a program is driven does not change what it does.

Model: Model/VM.lean. `next` = one `step` if running, `run` = iterate `step` while running (fuel
only bounds the number of iterations; every statement quantifies over all fuel), recording on/off =
`log := some … / none`.

Proved here for every program, word table (natives are arbitrary programs over the primitives),
machine and step count:
* recording is transparent: a recording machine and its non-recording twin produce the same outcome
  and the same machine up to the log, for one step, for `next`, and for whole runs;
* `run` is exactly single-stepping to the end.
Together: {run, step*} × {recording off, on} end in the same results, errors, stack, variables and
output.
* `eval_vs_compile_run` (session layer, Model/Session.lean): starting from an idle interpreter, evaluating a source in
  one call and compiling it and then running it give the same answer and the same session (Proofs/SessionEval.lean).
-/
import XehModel.Props.C02
import XehModel.Proofs.SessionEval

namespace Xeh.C15
open Xeh Xeh.Mach

variable (np : String → Option Prog)

/-- One instruction: recording adds log entries and nothing else. -/
theorem erase_step (m : Mach) :
    (step np m).1 = (step np (eraseLog m)).1 ∧ eraseLog (step np m).2 = eraseLog (step np (eraseLog m)).2 :=
  Erase.step_sim np m (eraseLog m) rfl

theorem erase_next (m : Mach) :
    (next np m).1 = (next np (eraseLog m)).1 ∧ eraseLog (next np m).2 = eraseLog (next np (eraseLog m)).2 :=
  Erase.next_sim np m (eraseLog m) rfl

/-- Whole runs: with the same fuel, the recording machine and its non-recording twin terminate
    together, with the same outcome and the same final machine up to the log. -/
theorem erase_run (fuel : Nat) (m : Mach) :
    (run np fuel m).map (·.1) = (run np fuel (eraseLog m)).map (·.1) ∧
    (run np fuel m).map (fun r => eraseLog r.2) = (run np fuel (eraseLog m)).map (fun r => eraseLog r.2) :=
  Erase.run_sim np fuel m (eraseLog m) rfl

/-- switching recording on or off (`set_recording_enabled`) changes the log and nothing else — not the instruction
    meter, not a limit, not a stack: up to the log it is the same machine, so (by `step_log_independent`, `erase_run`)
    everything that follows is the same whichever way the switch was set and whenever it was set -/
theorem recording_switch_changes_only_the_log (m : Mach) (on : Bool) :
    eraseLog (m.setRecording on) = eraseLog m ∧ (m.setRecording on).meter = m.meter ∧
    (m.setRecording on).insnLimit = m.insnLimit := ⟨rfl, rfl, rfl⟩

/-- … and a run after the switch ends like the run without it -/
theorem run_after_recording_switch (fuel : Nat) (m : Mach) (on : Bool) :
    (run np fuel (m.setRecording on)).map (·.1) = (run np fuel m).map (·.1) ∧
    (run np fuel (m.setRecording on)).map (fun r => eraseLog r.2) = (run np fuel m).map (fun r => eraseLog r.2) :=
  Erase.run_sim np fuel (m.setRecording on) m rfl

/-- any two machines that differ only in the log behave alike (two-machine form, e.g. logs of
    different length) -/
theorem step_log_independent (a b : Mach) (h : eraseLog a = eraseLog b) :
    (step np a).1 = (step np b).1 ∧ eraseLog (step np a).2 = eraseLog (step np b).2 :=
  Erase.step_sim np a b h

/-- `run` walks through `n` successful steps of running machines -/
theorem run_stepN (n f : Nat) (m m' : Mach) (h : C02.stepN np n m = some m')
    (hrun : ∀ j mj, j < n → C02.stepN np j m = some mj → mj.isRunning = true) :
    run np (n + f) m = run np f m' := by
  induction n generalizing m with
  | zero => cases h; rw [Nat.zero_add]
  | succ n ih =>
    simp only [C02.stepN] at h
    split at h
    · rename_i m1 hs
      rw [Nat.add_right_comm, run, if_pos (hrun 0 m (by omega) rfl), hs]
      exact ih m1 h fun j mj hj hmj => hrun (j + 1) mj (by omega) (by simp [C02.stepN, hs, hmj])
    · cases h

/-- `run` is single-stepping: if n successful steps lead to a machine that is no longer running,
    `run` with any fuel ≥ n returns exactly that machine. -/
theorem run_eq_steps (n k : Nat) (m m' : Mach) (h : C02.stepN np n m = some m')
    (hrun : ∀ j mj, j < n → C02.stepN np j m = some mj → mj.isRunning = true)
    (hend : m'.isRunning = false) :
    run np (n + k) m = some (.ok (), m') := by
  rw [run_stepN np n k m m' h hrun]
  cases k <;> simp [run, hend]

/-- and if single-stepping hits an error after n successful steps, `run` returns that error and
    that machine -/
theorem run_eq_steps_err (n k : Nat) (m mn : Mach) (r : R Unit) (h : C02.stepN np n m = some mn)
    (hrun : ∀ j mj, j ≤ n → C02.stepN np j m = some mj → mj.isRunning = true)
    (hs : step np mn = r) (hne : r.1 ≠ .ok ()) :
    run np (n + 1 + k) m = some r := by
  rw [Nat.add_assoc, run_stepN np n (1 + k) m mn h fun j mj hj => hrun j mj (Nat.le_of_lt hj), Nat.add_comm 1 k,
    run, if_pos (hrun n mn (Nat.le_refl n) h), hs]
  obtain ⟨o, x⟩ := r
  cases o with
  | ok u => exact absurd rfl hne
  | err e => rfl
  | panic p => rfl

/-- **evaluating a source in one call = compiling it, then running it**: from an idle interpreter, for every source
    (whatever it contains, meta blocks included) and every fuel, the same result or error and the same session
    (identical; up to the bookkeeping fields of the current context when the run fails — see
    `Session.eval_eq_compile_run`). Together with `erase_run` (recording on/off) and `run_eq_steps` (run = stepping to
    the end) this covers the six ways of driving a program. -/
theorem eval_vs_compile_run (fuel : Nat) (toks : List Compile.Tok) (s : Session.Sess) (idle : Session.Idle s)
    (rest : Session.AtRest s) :
    Session.EvalR (s.buildSource fuel .eval toks) (Session.compileThenRun fuel toks s) :=
  Session.eval_eq_compile_run fuel toks s idle rest

example : eraseLog ({ code := [.loadI64 1], log := some [] } : Mach) = eraseLog ({ code := [.loadI64 1], log := none } : Mach) := rfl
example : (run (fun _ => none) 5 ({ code := [.loadI64 1, .loadI64 2], log := some [] } : Mach)).map (fun r => (eraseLog r.2).ds)
    = some [.int 2, .int 1] := by decide

end Xeh.C15
