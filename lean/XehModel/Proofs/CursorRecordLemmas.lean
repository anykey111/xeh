/-
Records (C07): the pack and parse programs of one field evaluated (`parse_field`, `piece_spec`), then of a whole record:
`parse_all`, `pieces_spec`, `emitGroups_spec`, and what `>bitstr` makes of the pieces (`concatVec_append`).
-/
import XehModel.Model.CursorRecord
import XehModel.Proofs.CursorBitsLemmas
import XehModel.Proofs.CursorLemmas
import XehModel.Proofs.BitsPack

namespace Xeh.Cur
open Xeh

theorem Field.bits_length (f : Field) : f.bits.length = f.width := by
  cases f <;> simp [Field.bits, Field.width]
  case flt w big form x => split <;> simp

theorem packAll_nil : packAll [] = [] := rfl

theorem packAll_cons (f : Field) (fs : List Field) : packAll (f :: fs) = f.bits ++ packAll fs := by
  simp [packAll]

theorem packAll_append (a b : List Field) : packAll (a ++ b) = packAll a ++ packAll b := by
  simp [packAll]

theorem toUsize_nat (w : Nat) (h : w ≤ usizeMaxN) : (Cell.int (w : Nat)).toUsize = .ok w := by
  have h1 : ¬ (w : Int) < 0 := by omega
  have h2 : ¬ (w : Int) > usizeMax := by unfold usizeMax; unfold usizeMaxN at h; omega
  simp [Cell.toUsize, Cell.value, h1, h2]

/-- the round-trip theorems of C07 are about interpreters without a stack limit; what a limit does to a read is C06's
    `read_refused_moves_nothing` -/
theorem full_none {s : CurState} (h : s.stackLimit = none) : full s = false := by
  simp [full, h]

/-- the unread input of `s` is exactly `R`; every position of the buffer fits `usize` (so no read fails on the offset
    addition) and no stack limit is configured (so no push is refused) -/
structure Ahead (s : CurState) (R : List Bool) : Prop where
  pos : s.pos ≤ s.input.length
  rest : s.input.drop s.pos = R
  buf : s.base + s.input.length ≤ usizeMaxN
  lim : s.stackLimit = none

theorem Ahead.update {s : CurState} {R : List Bool} (h : Ahead s R) (be : Bool) (ds : List Cell) :
    Ahead { s with bigEndian := be, ds := ds } R :=
  ⟨h.pos, h.rest, h.buf, h.lim⟩

section
variable {s : CurState} {B tail : List Bool} {n : Nat} (h : Ahead s (B ++ tail)) (hB : B.length = n)
include h hB

theorem Ahead.slice : s.pos + n ≤ s.input.length ∧ slice s n = B := by
  have hl := congrArg List.length h.rest
  simp only [List.length_drop, List.length_append] at hl
  refine ⟨by have := h.pos; omega, ?_⟩
  unfold Cur.slice
  rw [h.rest, ← hB, List.take_left]

theorem Ahead.advance (be : Bool) (ds : List Cell) :
    Ahead { s with pos := s.pos + n, ds := ds, bigEndian := be } tail :=
  ⟨(h.slice hB).1, by rw [← hB, ← List.drop_drop, h.rest, List.drop_left], h.buf, h.lim⟩

theorem readWith_eval {conv : List Bool → Outcome Cell} {c : Cell} (hc : conv B = .ok c) :
    readWith s n conv = ({ s with pos := s.pos + n, ds := c :: s.ds }, .ok ()) := by
  obtain ⟨hfit, hsl⟩ := h.slice hB
  have h1 : ¬ (s.base + s.pos + n > usizeMaxN) := by have := h.buf; omega
  unfold Cur.slice at hsl
  simp only [readWith_eq, peek, h1, hfit, if_true, if_false, lift, hsl, hc, full_none h.lim, Bool.false_eq_true]

end

theorem step_bo (s : CurState) (big : Bool) : step s (boOp big) = ({ s with bigEndian := big }, .ok ()) := by
  cases big <;> rfl

theorem step_push (s : CurState) (c : Cell) (hlim : s.stackLimit = none := by assumption) :
    step s (.push c) = ({ s with ds := c :: s.ds }, .ok ()) := by
  simp [step, pushC, full_none hlim]

theorem run_pushes (ops : List POp) : ∀ (cs : List Cell) (s : CurState), s.stackLimit = none →
    run s (cs.map .push ++ ops) = run { s with ds := cs.reverse ++ s.ds } ops
  | [], _, _ => rfl
  | c :: cs, s, hlim => by
    rw [List.map_cons, List.cons_append, run_cons_ok (step_push s c),
      run_pushes ops cs { s with ds := c :: s.ds } hlim, List.reverse_cons, List.append_assoc]
    rfl

/-- The three forms in which a record names a numeric word of width `w` (head comment of Model/CursorRecord.lean).
    `args` are pushed before it (the value, when packing). -/
def numProg (big : Bool) (w : Nat) (args : List Cell) (sized : POp) (fixed : Option Bool → POp) : Form → List POp
  | .generic => boOp big :: (args.map .push ++ [.push (.int w), sized])
  | .fixedBo => args.map .push ++ [fixed (some big)]
  | .fixedCur => boOp big :: (args.map .push ++ [fixed none])

section
variable {R : Nat → Bool → CurState → Res} {sized : POp} {w : Nat}
  (hs : ∀ s, step s sized = popUsize s fun n s => R n s.bigEndian s)
  (s : CurState) (hw : w ≤ usizeMaxN) (hlim : s.stackLimit = none)
include hs hw hlim

theorem run_push_sized : run s [.push (.int w), sized] = R w s.bigEndian s := by
  rw [run_cons_ok (step_push s _), run_one, hs, popUsize_cons rfl _ (toUsize_nat w hw)]

theorem run_numProg {fixed : Option Bool → POp} (hf : ∀ s bo, step s (fixed bo) = R w (byteorder s bo) s)
    (big : Bool) (args : List Cell) (form : Form) :
    ∃ be, run s (numProg big w args sized fixed form) =
      R w big { s with bigEndian := be, ds := args.reverse ++ s.ds } := by
  cases form
  · exact ⟨big, by
      rw [numProg, run_cons_ok (step_bo s big), run_pushes _ args { s with bigEndian := big } hlim]
      exact run_push_sized hs { s with bigEndian := big, ds := args.reverse ++ s.ds } hw hlim⟩
  · exact ⟨s.bigEndian, by rw [numProg, run_pushes _ args s hlim, run_one, hf]; rfl⟩
  · exact ⟨big, by
      rw [numProg, run_cons_ok (step_bo s big), run_pushes _ args { s with bigEndian := big } hlim, run_one, hf]; rfl⟩

end

theorem beVal_byte (b : Nat) (h : b < 256) : beVal (beBits 8 b) = b := by
  rw [beVal_beBits]; exact Nat.mod_eq_of_lt h

section
variable (b : Nat) (rest : List Bool)

theorem take8_byte : (beBits 8 b ++ rest).take 8 = beBits 8 b := List.take_left' (beBits_length 8 b)
theorem drop8_byte : (beBits 8 b ++ rest).drop 8 = rest := List.drop_left' (beBits_length 8 b)
theorem byte_nonempty : (beBits 8 b ++ rest).isEmpty = false := by simp [beBits]

theorem scanNul_byte (f : Nat) (hb : b < 256) :
    scanNul (f + 1) (beBits 8 b ++ rest) = if b = 0 then 8 else 8 + scanNul f rest := by
  simp only [scanNul, byte_nonempty, take8_byte, drop8_byte, beVal_byte b hb, List.length_append, beBits_length,
    Bool.false_eq_true, if_false, Nat.min_eq_left (Nat.le_add_right 8 _)]

end

theorem scanNul_bytes (tail : List Bool) : ∀ (l : List Nat), (∀ b ∈ l, 0 < b ∧ b < 256) →
    ∀ f, l.length + 1 ≤ f → scanNul f (bytesToBits (l ++ [0]) ++ tail) = 8 * (l.length + 1)
  | _, _, 0, hf => nomatch hf
  | [], _, f + 1, _ => by
    rw [List.nil_append, bytesToBits_cons, List.append_assoc, scanNul_byte 0 _ f (by decide), if_pos rfl]; rfl
  | b :: l, hall, f + 1, hf => by
    have hb := hall b List.mem_cons_self
    rw [List.cons_append, bytesToBits_cons, List.append_assoc, scanNul_byte b _ f hb.2, if_neg (by omega),
      scanNul_bytes tail l (fun x hx => hall x (List.mem_cons_of_mem _ hx)) f (Nat.le_of_succ_le_succ hf),
      List.length_cons]
    omega

theorem bytes8_bytes (l : List Nat) (h : ∀ b ∈ l, b < 256) : bytes8 (bytesToBits l) = l := by
  rw [bytes8_eq, bytesToBits_eq, Bits.toBytesPad_ofBytes l h]

theorem takeWhile_nz (l : List Nat) (h : ∀ b ∈ l, 0 < b) : (l ++ [0]).takeWhile (· ≠ 0) = l := by
  rw [List.takeWhile_append_of_pos fun b hb => decide_eq_true (Nat.ne_of_gt (h b hb))]
  simp

theorem cstrChars_bytes (l : List Nat) (h : ∀ b ∈ l, 0 < b ∧ b < 256) :
    cstrChars (bytesToBits (l ++ [0])) = l.map Char.ofNat := by
  unfold cstrChars
  rw [bytes8_bytes _ (by
    intro b hb
    simp at hb
    rcases hb with hb | hb
    · exact (h b hb).2
    · omega), takeWhile_nz l (fun b hb => (h b hb).1)]

def Field.isCstr : Field → Bool
  | .cstr _ => true
  | _ => false

theorem step_cstr_eval {s : CurState} {B tail : List Bool} (h : Ahead s (B ++ tail)) (l : List Nat)
    (hl : ∀ b ∈ l, 0 < b ∧ b < 256) (hB : B = bytesToBits (l ++ [0])) (h8 : (B ++ tail).length % 8 = 0) :
    step s .cstr = ({ s with pos := s.pos + 8 * (l.length + 1), ds := .str (l.map Char.ofNat) :: s.ds }, .ok ()) := by
  have hBl : B.length = 8 * (l.length + 1) := by rw [hB]; simp
  have hscan : scanNul (B ++ tail).length (B ++ tail) = 8 * (l.length + 1) := by
    rw [hB]; apply scanNul_bytes tail l hl; simp; omega
  have htake : List.take (8 * (l.length + 1)) (B ++ tail) = B := by rw [← hBl]; exact List.take_left
  have h8' : ¬ ((B ++ tail).length % 8 ≠ 0) := by omega
  simp only [step, nulRead_eq, rest, h.pos, if_true, lift, h.rest, h8', if_false, hscan, full_none h.lim,
    Bool.false_eq_true, htake]
  rw [hB, cstrChars_bytes l hl]

theorem run_bytes {s : CurState} {B tail : List Bool} (h : Ahead s (B ++ tail)) {m : Nat} (hB : B.length = 8 * m) :
    run s [.push (.int m), .bytes] = ({ s with pos := s.pos + 8 * m, ds := .bitstr B :: s.ds }, .ok ()) := by
  have hfit := (h.slice hB).1
  have hbuf := h.buf
  rw [run_push_sized (sized := .bytes) (R := fun n _ s =>
      if n * 8 > usizeMaxN then (s, .err .integerOverflow) else readWith s (n * 8) fun bs => .ok (.bitstr bs))
    (fun _ => rfl) s (by omega) h.lim, Nat.mul_comm 8 m]
  rw [if_neg (by omega)]
  exact readWith_eval h (by omega) rfl

theorem toUint_fromInt_nat (big : Bool) {n k : Nat} (hk : k ≤ 128) (h : n < 2 ^ k) :
    toUint big (fromInt big (n : Int) k) = n := by
  have h' : (n : Int) < 2 ^ k := by exact_mod_cast h
  rw [toUint_fromInt big _ k hk, Int.emod_eq_of_lt (Int.natCast_nonneg n) h', Int.toNat_natCast]

theorem Field.conv_int (w : Nat) (sg big : Bool) (form : Form) (v : Int) (hw : if sg then w ≤ 128 else w ≤ 127) :
    (if sg then convSigned else convUnsigned) big (fromInt big v w) = .ok (Field.int w sg big form v).value := by
  cases sg
  · exact (convUnsigned_ok (fromInt_length ..)).mpr
      ⟨hw, by rw [toUint_fromInt big v w (Nat.le_succ_of_le hw), Bits.natCast_emod_toNat]; rfl⟩
  · exact (convSigned_ok (fromInt_length ..)).mpr ⟨hw, by rw [toInt_fromInt big v w hw]; rfl⟩

theorem Field.conv_flt (w : Nat) (big : Bool) (form : Form) (x : UInt64) (hw : w = 32 ∨ w = 64) :
    convFloat w big (Field.flt w big form x).bits = .ok (Field.flt w big form x).value := by
  rcases hw with rfl | rfl
  · exact (convFloat_ok (fromInt_length ..)).mpr (.inl ⟨rfl, by
      rw [toUint_fromInt_nat big (by decide) (UInt32.toNat_lt _), UInt32.ofNat_toNat]; rfl⟩)
  · exact (convFloat_ok (fromInt_length ..)).mpr (.inr ⟨rfl, by
      rw [toUint_fromInt_nat big (by decide) (UInt64.toNat_lt _), UInt64.ofNat_toNat]; rfl⟩)

theorem parse_field (f : Field) {s : CurState} {tail : List Bool} (hok : f.Ok) (h : Ahead s (f.bits ++ tail))
    (hcstr : f.isCstr = true → (f.bits ++ tail).length % 8 = 0) :
    ∃ be, run s f.parseProg =
      ({ s with pos := s.pos + f.width, ds := f.value :: s.ds, bigEndian := be }, .ok ()) := by
  have hfit : f.width ≤ usizeMaxN := by
    have := (h.slice f.bits_length).1; have := h.buf; omega
  cases f with
  | int w sg big form v =>
    obtain ⟨be, hr⟩ := run_numProg (w := w) (R := fun n b s => readWith s n ((if sg then convSigned else convUnsigned) b))
      (sized := if sg then .int else .uint) (by cases sg <;> exact fun _ => rfl) s hfit h.lim
      (fixed := fun bo => if sg then .readI w bo else .readU w bo) (by cases sg <;> exact fun _ _ => rfl) big [] form
    refine ⟨be, .trans (by cases form <;> rfl) (hr.trans ?_)⟩
    exact readWith_eval (h.update be _) (fromInt_length ..) (Field.conv_int w sg big form v hok.1)
  | flt w big form x =>
    have hw : (Field.flt w big form x).width = w := by rcases hok with rfl | rfl <;> rfl
    rw [hw] at hfit ⊢
    obtain ⟨be, hr⟩ := run_numProg (w := w) (R := fun n b s => readWith s n (convFloat n b)) (sized := .float)
      (fun _ => rfl) s hfit h.lim (fixed := .readF w) (fun _ _ => rfl) big [] form
    refine ⟨be, .trans (by cases form <;> rfl) (hr.trans ?_)⟩
    exact readWith_eval (h.update be _) ((Field.bits_length _).trans hw) (Field.conv_flt w big form x hok)
  | raw b =>
    exact ⟨s.bigEndian, (run_push_sized (w := b.length) (R := fun n _ s => readWith s n fun bs => .ok (.bitstr bs))
      (sized := .bits) (fun _ => rfl) s hfit h.lim).trans (readWith_eval h rfl rfl)⟩
  | str str => exact ⟨s.bigEndian, run_bytes h (bytesToBits_length _)⟩
  | bytes l => exact ⟨s.bigEndian, run_bytes h (bytesToBits_length _)⟩
  | cstr l => exact ⟨s.bigEndian, (run_one s _).trans (step_cstr_eval h l hok rfl (hcstr rfl))⟩

/-- a NUL-terminated field only where the rest of the record is a whole number of bytes: `cstr`/`nulbytestr` refuse to
    read otherwise -/
def RecOk : List Field → Prop
  | [] => True
  | f :: fs => f.Ok ∧ (f.isCstr = true → (packAll (f :: fs)).length % 8 = 0) ∧ RecOk fs

theorem state_eta (s : CurState) (hlim : s.stackLimit = none := by assumption) :
    ({ s with pos := s.pos + 0, ds := [] ++ s.ds, bigEndian := s.bigEndian } : CurState) = s := by
  cases s; simp

theorem parse_all : ∀ (fs : List Field) (s : CurState), RecOk fs → Ahead s (packAll fs) →
    ∃ be, run s (parseAll fs) =
      ({ s with pos := s.pos + (packAll fs).length, ds := (fs.map Field.value).reverse ++ s.ds,
                bigEndian := be }, .ok ())
  | [], s, _, _ => ⟨s.bigEndian, rfl⟩
  | f :: fs, s, ⟨hf, hc, hrest⟩, h => by
    rw [packAll_cons] at h
    obtain ⟨be1, h1⟩ := parse_field f hf h (by rw [← packAll_cons]; exact hc)
    obtain ⟨be2, h2⟩ := parse_all fs _ hrest (h.advance f.bits_length be1 (f.value :: s.ds))
    refine ⟨be2, ?_⟩
    rw [show parseAll (f :: fs) = f.parseProg ++ parseAll fs from List.flatten_cons .., run_append_ok h1, h2]
    simp [packAll_cons, Field.bits_length]
    omega

theorem concatVec_cons {c : Cell} {t : CellList} {p q : List Bool} (hp : concatElem c = .ok p)
    (hq : concatVec t = .ok q) : concatVec (.cons c t) = .ok (p ++ q) := by
  simp only [concatVec, hp, hq]

theorem concatVec_cons_ok {c : Cell} {t : CellList} {r : List Bool} (h : concatVec (.cons c t) = .ok r) :
    ∃ p q, concatElem c = .ok p ∧ concatVec t = .ok q ∧ r = p ++ q := by
  unfold concatVec at h
  cases hp : concatElem c <;> cases hq : concatVec t <;> rw [hp, hq] at h <;> cases h
  exact ⟨_, _, rfl, rfl, rfl⟩

theorem concatVec_ints : ∀ (l : List Nat), (∀ b ∈ l, b < 256) →
    concatVec (CellList.ofList (l.map fun b => Cell.int (b : Nat))) = .ok (bytesToBits l)
  | [], _ => rfl
  | b :: l, h => by
    have hb : (0 : Int) ≤ b ∧ (b : Int) ≤ 255 := by have := h b List.mem_cons_self; omega
    rw [bytesToBits_cons]
    exact concatVec_cons (by simp only [concatElem, byteCell, hb, and_self, if_true, Int.toNat_natCast])
      (concatVec_ints l fun x hx => h x (List.mem_cons_of_mem _ hx))

theorem step_bo' (s : CurState) (big : Bool) : step s (boOp big) = ({ s with bigEndian := big }, .ok ()) :=
  step_bo s big

theorem packIntBo_eval {s : CurState} {v : Int} {t : List Cell} (n : Nat) (big : Bool) (hds : s.ds = .int v :: t)
    (hlim : s.stackLimit = none) :
    packIntBo s n big = ({ s with ds := .bitstr (fromInt big v n) :: t }, .ok ()) := by
  simp [packIntBo, popCell, hds, lift, Cell.toXint, Cell.value, pushC, full, hlim]

theorem packFloatBo_eval {s : CurState} {x : UInt64} {t : List Cell} {n : Nat} (big : Bool) (hn : n = 32 ∨ n = 64)
    (hds : s.ds = .real x :: t) (hlim : s.stackLimit = none) :
    packFloatBo s n big = ({ s with ds := .bitstr (Field.flt n big .generic x).bits :: t }, .ok ()) := by
  rcases hn with rfl | rfl <;>
    simp [packFloatBo, popCell, hds, lift, Cell.toReal, Cell.value, pushC, full, hlim, Field.bits]

theorem piece_of_run {f : Field} {s : CurState} {be : Bool} {c : Cell}
    (h : run s f.packProg = ({ s with bigEndian := be, ds := c :: s.ds }, .ok ())) :
    f.piece s = ({ s with bigEndian := be }, .ok c) := by
  rw [Field.piece, h]

theorem piece_spec (f : Field) (s : CurState) (hok : f.Ok) (hlim : s.stackLimit = none := by assumption) :
    ∃ be c, f.piece s = ({ s with bigEndian := be }, .ok c) ∧ concatElem c = .ok f.bits := by
  cases f with
  | int w sg big form v =>
    have hw : w ≤ usizeMaxN := by
      have : w ≤ 128 := by have := hok.1; split at this <;> omega
      unfold usizeMaxN; omega
    obtain ⟨be, h⟩ := run_numProg (R := fun n b s => packIntBo s n b) (sized := .packIntN) (fun _ => rfl) s hw hlim
      (fixed := .packInt w) (fun _ _ => rfl) big [.int v] form
    exact ⟨be, _, piece_of_run (.trans (by cases form <;> rfl) (h.trans (packIntBo_eval w big rfl hlim))), rfl⟩
  | flt w big form x =>
    have hw : w ≤ usizeMaxN := by unfold usizeMaxN; rcases hok with rfl | rfl <;> omega
    obtain ⟨be, h⟩ := run_numProg (R := fun n b s => packFloatBo s n b) (sized := .packFN) (fun _ => rfl) s hw hlim
      (fixed := .packF w) (fun _ _ => rfl) big [.real x] form
    exact ⟨be, _, piece_of_run (.trans (by cases form <;> rfl) (h.trans (packFloatBo_eval big hok rfl hlim))), rfl⟩
  | raw b => exact ⟨s.bigEndian, _, piece_of_run (run_one s _ ▸ step_push s _), rfl⟩
  | str str => exact ⟨s.bigEndian, _, piece_of_run (run_one s _ ▸ step_push s _), rfl⟩
  | bytes l =>
    exact ⟨s.bigEndian, _, piece_of_run (run_one s _ ▸ step_push s _), by
      simp only [intVec, concatElem, Field.bits, concatVec_ints l hok]⟩
  | cstr l =>
    have hall : ∀ b ∈ l ++ [0], b < 256 := fun b hb =>
      (List.mem_append.mp hb).elim (fun h => (hok b h).2) (fun h => by simp at h; omega)
    exact ⟨s.bigEndian, _, piece_of_run (run_one s _ ▸ step_push s _), by
      simp only [intVec, concatElem, Field.bits, concatVec_ints _ hall]⟩

theorem pieces_spec : ∀ (fs : List Field) (s : CurState), (∀ f ∈ fs, f.Ok) → s.stackLimit = none →
    ∃ be cs, pieces s fs = ({ s with bigEndian := be }, .ok cs) ∧
      concatVec (CellList.ofList cs) = .ok (packAll fs) := by
  intro fs
  induction fs with
  | nil => intro s _ _; exact ⟨s.bigEndian, [], by simp [pieces], by simp [CellList.ofList, concatVec, packAll_nil]⟩
  | cons f fs ih =>
    intro s hok hlim
    obtain ⟨be1, c, hp, hc⟩ := piece_spec f s (hok f (by simp))
    obtain ⟨be2, cs, hps, hcs⟩ := ih { s with bigEndian := be1 } (fun x hx => hok x (by simp [hx])) hlim
    refine ⟨be2, c :: cs, ?_, ?_⟩
    · simp only [pieces, hp, hps]
    · rw [packAll_cons]; exact concatVec_cons hc hcs

theorem splitBy_flatten {α : Type} : ∀ (sizes : List Nat) (l : List α), (splitBy sizes l).flatten = l := by
  intro sizes
  induction sizes with
  | nil => intro l; simp [splitBy]
  | cons n ns ih => intro l; simp [splitBy, ih]

theorem toBitstr_vec_eval (s : CurState) (cs : List Cell) (bits : List Bool)
    (h : concatVec (CellList.ofList cs) = .ok bits) (hlim : s.stackLimit = none := by assumption) :
    run s [.push (.vec (CellList.ofList cs)), .toBitstr] = ({ s with ds := .bitstr bits :: s.ds }, .ok ()) := by
  simp [run, step, pushC, full, hlim, popCell, lift, bitstrConcat, Cell.value, h]

theorem emitGroups_spec : ∀ (gs : List (List Field)) (s : CurState) (o : List Bool),
    (∀ g ∈ gs, ∀ f ∈ g, f.Ok) → s.output = some o →
    s.outputLen + (packAll gs.flatten).length ≤ usizeMaxN → s.stackLimit = none →
    ∃ be, emitGroups s gs =
      ({ s with bigEndian := be, output := some (o ++ packAll gs.flatten), outputLen := s.outputLen + (packAll gs.flatten).length }, .ok ()) := by
  intro gs
  induction gs with
  | nil =>
    intro s o _ ho _ _
    refine ⟨s.bigEndian, ?_⟩
    cases s
    simp_all [emitGroups, packAll_nil]
  | cons g gs ih =>
    intro s o hok ho hlen hlim
    obtain ⟨be1, cs, hp, hc⟩ := pieces_spec g s (hok g (by simp)) hlim
    simp only [List.flatten_cons, packAll_append, List.length_append] at hlen ⊢
    have hnov : ¬ (s.outputLen + (packAll g).length > usizeMaxN) := by omega
    have hrun : run { s with bigEndian := be1 } [.push (.vec (CellList.ofList cs)), .toBitstr, .emit] =
        ({ s with bigEndian := be1, output := some (o ++ packAll g), outputLen := s.outputLen + (packAll g).length }, .ok ()) := by
      refine (run_append_ok (b := [.emit]) (toBitstr_vec_eval { s with bigEndian := be1 } cs _ hc hlim)).trans ?_
      rw [run_one, step, popBitstr_cons (c := .bitstr (packAll g)) (t := s.ds) rfl _ rfl]
      simp [hnov, ho]
    obtain ⟨be2, h2⟩ := ih { s with bigEndian := be1, output := some (o ++ packAll g), outputLen := s.outputLen + (packAll g).length } (o ++ packAll g)
      (fun g' hg' => hok g' (by simp [hg'])) rfl (by simp; omega) hlim
    refine ⟨be2, ?_⟩
    simp only [emitGroups, hp, hrun, h2]
    simp [List.append_assoc, Nat.add_assoc]

theorem ofList_append (a b : List Cell) :
    CellList.ofList (a ++ b) = match a with | [] => CellList.ofList b | x :: t => .cons x (CellList.ofList (t ++ b)) := by
  cases a <;> simp [CellList.ofList]

theorem concatVec_append : ∀ (a b : List Cell) (x y : List Bool),
    concatVec (CellList.ofList a) = .ok x → concatVec (CellList.ofList b) = .ok y →
    concatVec (CellList.ofList (a ++ b)) = .ok (x ++ y)
  | [], b, x, y, ha, hb => by cases ha; exact hb
  | c :: a, b, x, y, ha, hb => by
    obtain ⟨p, q, hp, hq, rfl⟩ := concatVec_cons_ok ha
    rw [List.append_assoc]
    exact concatVec_cons hp (concatVec_append a b q y hq hb)

end Xeh.Cur
