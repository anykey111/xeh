/-
String literals: a literal body written as a sequence of pieces — raw characters (anything except backslash and the two
closing quotes) and the five documented escapes — decodes to the sequence of the pieces' values.
-/
import XehModel.Proofs.LexNum

namespace Xeh.Lex

inductive Piece where
  | raw (c : Char)
  | esc (code : Char)
deriving Repr, DecidableEq

def Piece.text : Piece → List Char
  | .raw c => [c]
  | .esc k => ['\\', k]

def Piece.Ok : Piece → Prop
  | .raw c => c ≠ '\\' ∧ c ≠ '"' ∧ c ≠ '”'
  | .esc k => k = '\\' ∨ k = '"' ∨ k = 'n' ∨ k = 'r' ∨ k = 't'

def Piece.val : Piece → Char
  | .raw c => c
  | .esc k => if k = 'n' then '\n' else if k = 'r' then '\r' else if k = 't' then '\t' else k

theorem unescape_ok {k : Char} (h : Piece.Ok (.esc k)) : unescape k = some (Piece.val (.esc k)) := by
  rcases h with rfl | rfl | rfl | rfl | rfl <;> decide

theorem unescape_none {k : Char} (h : ¬ Piece.Ok (.esc k)) : unescape k = none := by
  simp only [Piece.Ok, not_or] at h
  obtain ⟨h1, h2, h3, h4, h5⟩ := h
  unfold unescape
  split <;> simp_all

def sepOk : List Char → Bool
  | [] => true
  | w :: _ => isWs w

theorem Sep.sepOk {rest : List Char} (hr : Sep rest) : sepOk rest = true := by
  rcases hr with rfl | ⟨w, r', rfl, hw⟩
  · rfl
  · exact hw

theorem scanStr_piece {p : Piece} (hp : p.Ok) (tail : List Char) :
    scanStr (p.text ++ tail) =
      ((scanStr tail).1.push p.val, p.text ++ (scanStr tail).2.1, (scanStr tail).2.2) := by
  cases p with
  | raw c =>
    obtain ⟨h1, h2, h3⟩ := hp
    have hq : (c == '"' || c == '”') = false := by simp [h2, h3]
    show scanStr (c :: tail) = _
    conv => lhs; unfold scanStr
    simp only [beq_iff_eq, h1, if_false, hq, Bool.false_eq_true]
    rfl
  | esc k =>
    show scanStr ('\\' :: k :: tail) = _
    rw [scanStr]
    simp only [beq_self_eq_true, if_true, unescape_ok hp]
    rfl

theorem scanStr_pieces_append (ps : List Piece) (hps : ∀ p ∈ ps, p.Ok) (tail : List Char) :
    scanStr (ps.flatMap Piece.text ++ tail) =
      ((ps.map Piece.val).foldr StrEnd.push (scanStr tail).1,
        ps.flatMap Piece.text ++ (scanStr tail).2.1, (scanStr tail).2.2) := by
  induction ps with
  | nil => rfl
  | cons p t ih =>
    rw [List.flatMap_cons, List.append_assoc, scanStr_piece (hps p (by simp)),
      ih fun x hx => hps x (by simp [hx])]
    simp

theorem scanStr_pieces (ps : List Piece) (hps : ∀ p ∈ ps, p.Ok) (q : Char) (hq : q = '"' ∨ q = '”')
    (rest : List Char) :
    scanStr (ps.flatMap Piece.text ++ q :: rest) =
      (.closed (ps.map Piece.val) (sepOk rest), ps.flatMap Piece.text ++ [q], rest) := by
  have hend : scanStr (q :: rest) = (.closed [] (sepOk rest), [q], rest) := by
    have hq1 : q ≠ '\\' := by rcases hq with rfl | rfl <;> decide
    have hq2 : (q == '"' || q == '”') = true := by rcases hq with rfl | rfl <;> rfl
    unfold scanStr
    simp only [beq_iff_eq, hq1, if_false, hq2, if_true]
    cases rest <;> rfl
  rw [scanStr_pieces_append ps hps, hend]
  congr 1
  induction ps.map Piece.val with
  | nil => rfl
  | cons v vs ih => rw [List.foldr_cons, ih]; rfl

theorem scanStr_bad_escape (ps : List Piece) (hps : ∀ p ∈ ps, p.Ok) (k : Char) (hk : ¬ Piece.Ok (.esc k))
    (rest : List Char) :
    scanStr (ps.flatMap Piece.text ++ '\\' :: k :: rest) =
      (.badEscape k, ps.flatMap Piece.text ++ ['\\', k], rest) := by
  have hend : scanStr ('\\' :: k :: rest) = (.badEscape k, ['\\', k], rest) := by
    rw [scanStr]; simp [unescape_none hk]
  rw [scanStr_pieces_append ps hps, hend]
  congr 1
  induction ps.map Piece.val with
  | nil => rfl
  | cons v vs ih => rw [List.foldr_cons, ih]; rfl

end Xeh.Lex
