/-
C17 (location function part) — `token_location` (lex.rs 312–345): line, column and quoted line.

For EVERY source text and every token start on a char boundary (`text = pre ++ post`, the token
starts at byte `utf8Len pre`; `post` begins with the token), for any mix of LF / CRLF / CR line
ends, tabs and multi-byte characters:

* `line`  = number of LF characters before the token (a lone CR starts a new *segment* — it
  resets the column and the quoted line — but does not count as a line; the statement fixed in
  DESIGN §9 C17);
* `col`   = number of characters (not bytes) since the last CR/LF before the token;
* `whole_line` = the maximal run without CR/LF around the token start: the break-free suffix of
  `pre` followed by the break-free prefix of `post`; its byte range is reported too;
* the quoted line, from column `col` on, is the token text up to its first line break;
* the function never panics (`parent.substr(start..end)` is always inside the text on char
  boundaries) — after the repair 752c812 of the initial `end = 1`, whose only failing input was
  the empty text (`substr(0..1)` of ""): `location_empty_text` pins the repaired behaviour.
-/
import XehModel.Proofs.LexLoc

namespace Xeh.C17loc
open Xeh Xeh.Lex

/-- `lastSeg pre` is the text since the last line break: a break-free suffix of `pre` preceded by
    nothing or by a CR/LF -/
theorem lastSeg_spec (pre : List Char) :
    ∃ a, pre = a ++ lastSeg pre ∧ (∀ c ∈ lastSeg pre, isBreak c = false) ∧
      (a = [] ∨ ∃ a' b, a = a' ++ [b] ∧ isBreak b = true) := by
  have := lastSegAux_spec pre [] (by simp)
  simpa [lastSeg] using this

/-- `firstSeg post` is the text up to the next line break: a break-free prefix of `post` followed
    by nothing or by a CR/LF -/
theorem firstSeg_spec (post : List Char) :
    ∃ b, post = firstSeg post ++ b ∧ (∀ c ∈ firstSeg post, isBreak c = false) ∧
      (b = [] ∨ ∃ w b', b = w :: b' ∧ isBreak w = true) := by
  induction post with
  | nil => exact ⟨[], rfl, by simp [firstSeg], Or.inl rfl⟩
  | cons c r ih =>
    by_cases hc : isBreak c = true
    · exact ⟨c :: r, by simp [firstSeg, hc], by simp [firstSeg, hc], Or.inr ⟨c, r, rfl, hc⟩⟩
    · have hc' : isBreak c = false := by simpa using hc
      obtain ⟨b, h1, h2, h3⟩ := ih
      refine ⟨b, ?_, ?_, h3⟩
      · simp only [firstSeg, hc', Bool.false_eq_true, if_false, List.cons_append]; rw [← h1]
      · intro x hx
        simp only [firstSeg, hc', Bool.false_eq_true, if_false, List.mem_cons] at hx
        rcases hx with rfl | hx
        · exact hc'
        · exact h2 x hx

/-- the location of a token starting right after `pre` in `pre ++ post` -/
theorem location_spec (pre post : List Char) :
    tokenLocation (pre ++ post) (utf8Len pre) =
      .ok (⟨countLF pre, (lastSeg pre).length, utf8Len pre - utf8Len (lastSeg pre),
            utf8Len pre + utf8Len (firstSeg post)⟩, lastSeg pre ++ firstSeg post) := by
  obtain ⟨a, ha, -, -⟩ := lastSeg_spec pre
  obtain ⟨b, hb, -, -⟩ := firstSeg_spec post
  have hlen : utf8Len pre = utf8Len a + utf8Len (lastSeg pre) := by
    rw [← utf8Len_append]; exact congrArg utf8Len ha
  have h1 : locLoop (utf8Len pre) (pre ++ post) 0 0 0 0 0 =
      locLoop (utf8Len pre) post (utf8Len pre) (utf8Len pre - utf8Len (lastSeg pre)) (utf8Len pre)
        (countLF pre) (lastSeg pre).length := by
    have := locLoop_before (utf8Len pre) pre post 0 [] 0 0 (Nat.zero_add _).symm (Nat.le_refl _)
      (fun h => by rw [h]; rfl)
    rwa [Nat.zero_add] at this
  have h2 := locLoop_after (utf8Len pre) post (utf8Len pre) (utf8Len pre - utf8Len (lastSeg pre))
    (countLF pre) (lastSeg pre).length (Nat.le_refl _) (Nat.sub_le _ _)
  have hs : substrBytes (pre ++ post) (utf8Len pre - utf8Len (lastSeg pre))
      (utf8Len pre + utf8Len (firstSeg post)) = some (lastSeg pre ++ firstSeg post) := by
    have e1 : pre ++ post = a ++ (lastSeg pre ++ firstSeg post) ++ b := by
      conv => lhs; rw [ha, hb]
      simp [lastSeg]
    rw [e1, show utf8Len pre - utf8Len (lastSeg pre) = utf8Len a by omega,
      show utf8Len pre + utf8Len (firstSeg post) = utf8Len a + utf8Len (lastSeg pre ++ firstSeg post) by
        rw [utf8Len_append]; omega]
    exact substrBytes_mid a _ b
  unfold tokenLocation
  rw [h1, h2]
  simp only [hs]

/-- the function is total: no source text and token start on a char boundary makes it panic -/
theorem location_total (pre post : List Char) :
    (tokenLocation (pre ++ post) (utf8Len pre)).isPanic = false := by
  rw [location_spec]; rfl

/-- the quoted line, from column `col` on, is the token's text up to its first line break -/
theorem location_points_at_token (pre post : List Char) :
    (lastSeg pre ++ firstSeg post).drop (lastSeg pre).length = firstSeg post := by
  simp

/-- the empty source (the repaired case): line 0, column 0, empty quoted line -/
theorem location_empty_text : tokenLocation [] 0 = .ok (⟨0, 0, 0, 0⟩, []) := by decide +kernel

-- a literal is `String.ofList` of its chars; evaluating `toList` on it instead decodes UTF-8 bytes

-- CRLF: the token after `\r\n` is on line 1, column 0
example : tokenLocation "ab\r\ncd".toList 4 = .ok (⟨1, 0, 4, 6⟩, "cd".toList) := by
  rw [String.toList_ofList, String.toList_ofList]
  decide +kernel
-- a lone CR resets the column but is not a line
example : tokenLocation "ab\rcd".toList 3 = .ok (⟨0, 0, 3, 5⟩, "cd".toList) := by
  rw [String.toList_ofList, String.toList_ofList]
  decide +kernel
-- columns count characters, not bytes; tabs count 1
example : tokenLocation "é\t日x y\n".toList 7 = .ok (⟨0, 4, 0, 9⟩, "é\t日x y".toList) := by
  rw [String.toList_ofList, String.toList_ofList]
  decide +kernel
-- a token at the very end of a text that ends in a newline
example : tokenLocation "x\n".toList 2 = .ok (⟨1, 0, 2, 2⟩, []) := by
  rw [String.toList_ofList]
  decide +kernel
-- a token start on the `\n` of a CRLF: an empty segment
example : tokenLocation "a\r\nb".toList 2 = .ok (⟨0, 0, 2, 2⟩, []) := by
  rw [String.toList_ofList]
  decide +kernel

end Xeh.C17loc
