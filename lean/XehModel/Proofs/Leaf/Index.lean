/-
Tie B, bridge theorems (DESIGN §4.2) — `relative_index`, `slicing_index` (state.rs).
-/
import XehModel.Proofs.Leaf.Common

namespace Xeh.LeafBridge
open Xeh.MI Xeh.Generated Xeh.LeafSpec

/-- `Option<usize>` as the evaluator returns it: tag, payload -/
def optEnc : Option Nat → List Int
  | none => [0, 0]
  | some k => [1, (k : Int)]

theorem relativeIndex_matches_source (p : Profile) (len : Nat) (i : Int) (hl : len < 2^64)
    (hi1 : -(2^63) ≤ i) (hi2 : i < 2^63) :
    evalFn p src_relative_index [(len : Int), i] = .ok (optEnc (relativeIndex len i)) := by
  unfold relativeIndex
  split
  · split
    · mi_eval src_relative_index optEnc
      omega
    · mi_eval src_relative_index optEnc
  · split
    · mi_eval src_relative_index optEnc
      omega
    · mi_eval src_relative_index optEnc

theorem slicingIndex_matches_source (p : Profile) (i : Int) (len : Nat) (hl : len < 2^64)
    (hi1 : -(2^63) ≤ i) (hi2 : i < 2^63) :
    evalFn p src_slicing_index [i, (len : Int)] = .ok [(slicingIndex i len : Nat)] := by
  unfold slicingIndex
  split
  all_goals
    mi_eval src_slicing_index
    omega


example : evalFn .debug src_relative_index [3, -1] = .ok [1, 2] := by decide +kernel
example : evalFn .release src_slicing_index [-10, 3] = .ok [0] := by decide +kernel

end Xeh.LeafBridge
