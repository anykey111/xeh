/- The stable insertion sort `sortL` is a permutation, and ascending when `cmp` is lawful on the elements. -/
import XehModel.Proofs.CollOrder

namespace Xeh

def Ascending (l : List Cell) : Prop := l.Pairwise fun a b => Cell.cmp a b ≠ .gt

theorem insertSorted_perm (x : Cell) : ∀ l : List Cell, (insertSorted x l).Perm (x :: l)
  | [] => List.Perm.refl _
  | y :: t => by
    simp only [insertSorted]
    split
    · exact ((insertSorted_perm x t).cons y).trans (List.Perm.swap x y t)
    · exact List.Perm.refl _

theorem sortL_perm : ∀ l : List Cell, (sortL l).Perm l
  | [] => List.Perm.refl _
  | x :: t => (insertSorted_perm x (sortL t)).trans ((sortL_perm t).cons x)

theorem insertSorted_ascending {P : Cell → Prop} (L : CmpLawfulOn P) (x : Cell) (hx : P x) :
    ∀ l : List Cell, (∀ y ∈ l, P y) → Ascending l → Ascending (insertSorted x l)
  | [], _, _ => by simp [insertSorted, Ascending]
  | y :: t, hall, hs => by
    have hy : P y := hall y List.mem_cons_self
    have hs' := List.pairwise_cons.mp hs
    simp only [insertSorted]
    split
    · rename_i hgt
      have hgt : Cell.cmp x y = .gt := by simpa using hgt
      refine List.pairwise_cons.mpr ⟨?_, insertSorted_ascending L x hx t (fun z hz => hall z (List.mem_cons_of_mem _ hz)) hs'.2⟩
      intro z hz
      rcases List.mem_cons.mp ((insertSorted_perm x t).mem_iff.mp hz) with rfl | hz
      · rw [L.lt_of_gt hx hy hgt]; simp
      · exact hs'.1 z hz
    · rename_i hle
      have hle : Cell.cmp x y ≠ .gt := by simpa using hle
      refine List.pairwise_cons.mpr ⟨?_, hs⟩
      intro z hz
      rcases List.mem_cons.mp hz with rfl | hz
      · exact hle
      · exact L.le_trans x y z hx hy (hall z (List.mem_cons_of_mem _ hz)) hle (hs'.1 z hz)

theorem sortL_ascending {P : Cell → Prop} (L : CmpLawfulOn P) :
    ∀ l : List Cell, (∀ y ∈ l, P y) → Ascending (sortL l)
  | [], _ => by simp [sortL, Ascending]
  | x :: t, hall => by
    simp only [sortL]
    refine insertSorted_ascending L x (hall x List.mem_cons_self) _ ?_ (sortL_ascending L t fun z hz => hall z (List.mem_cons_of_mem _ hz))
    intro z hz
    exact hall z (List.mem_cons_of_mem _ ((sortL_perm t).mem_iff.mp hz))

end Xeh
