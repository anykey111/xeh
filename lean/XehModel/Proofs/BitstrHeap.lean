/-
The heap of the L1 model: what `set`, `alloc`, `incRc`, `decRc` do to each buffer; reference-count updates never
change bytes or the bits a handle denotes; a handle stays well formed when its buffer keeps its bytes and a
positive count (`WF_transfer`): under a clone (`WF_incRc`), an allocation (`keep_alloc`), a drop that leaves it a count
(`keep_decRc`), and on a sub-range (`WF_sub`); fresh allocations.
-/
import XehModel.Proofs.BitstrLemmas
import XehModel.Proofs.BitsPack

namespace Xeh.Bitstr
open Xeh Xeh.Bits

theorem set_buf_self (h : Heap) (b : Nat) (x : Buf) : (h.set b x).buf b = x := if_pos rfl

theorem set_buf_ne (h : Heap) (b : Nat) (x : Buf) {y : Nat} (hy : y ≠ b) : (h.set b x).buf y = h.buf y :=
  if_neg hy

theorem alloc_buf_self (h : Heap) (bytes : List Nat) (bw : Bool) :
    (h.alloc bytes bw).1.buf h.next = ⟨bytes, 1, bw⟩ := if_pos rfl

theorem alloc_buf_ne (h : Heap) (bytes : List Nat) (bw : Bool) {x : Nat} (hx : x ≠ h.next) :
    (h.alloc bytes bw).1.buf x = h.buf x := if_neg hx

theorem incRc_buf_ne (h : Heap) (b x : Nat) (hx : x ≠ b) : (h.incRc b).buf x = h.buf x := set_buf_ne _ _ _ hx

theorem decRc_buf_ne (h : Heap) (b x : Nat) (hx : x ≠ b) : (h.decRc b).buf x = h.buf x := set_buf_ne _ _ _ hx

theorem incRc_rc_self (h : Heap) (b : Nat) : ((h.incRc b).buf b).rc = (h.buf b).rc + 1 := by
  unfold Heap.incRc; rw [set_buf_self]

theorem decRc_rc_self (h : Heap) (b : Nat) : ((h.decRc b).buf b).rc = (h.buf b).rc - 1 := by
  unfold Heap.decRc; rw [set_buf_self]

@[simp] theorem incRc_bytes (h : Heap) (b x : Nat) : ((h.incRc b).buf x).bytes = (h.buf x).bytes := by
  by_cases hx : x = b
  · subst hx; unfold Heap.incRc; rw [set_buf_self]
  · rw [incRc_buf_ne _ _ _ hx]

@[simp] theorem decRc_bytes (h : Heap) (b x : Nat) : ((h.decRc b).buf x).bytes = (h.buf x).bytes := by
  by_cases hx : x = b
  · subst hx; unfold Heap.decRc; rw [set_buf_self]
  · rw [decRc_buf_ne _ _ _ hx]

@[simp] theorem incRc_next (h : Heap) (b : Nat) : (h.incRc b).next = h.next := rfl
@[simp] theorem decRc_next (h : Heap) (b : Nat) : (h.decRc b).next = h.next := rfl

theorem incRc_rc_ge (h : Heap) (b x : Nat) : (h.buf x).rc ≤ ((h.incRc b).buf x).rc := by
  by_cases hx : x = b
  · subst hx; rw [incRc_rc_self]; exact Nat.le_succ _
  · rw [incRc_buf_ne _ _ _ hx]; exact Nat.le_refl _

@[simp] theorem bits_incRc (h : Heap) (b : Nat) (t : Handle) : bits (h.incRc b) t = bits h t := by
  simp [bits, Heap.view]

@[simp] theorem bits_decRc (h : Heap) (b : Nat) (t : Handle) : bits (h.decRc b) t = bits h t := by
  simp [bits, Heap.view]

theorem bits_eq (h : Heap) (s : Handle) :
    bits h s = slice (allBits (h.buf s.buf).bytes) s.start s.end_ := rfl

theorem bits_length (h : Heap) (s : Handle) (wf : WF h s) : (bits h s).length = s.end_ - s.start :=
  slice_allBits_length _ _ _ wf.view.bound

theorem WF_transfer (h h' : Heap) (u : Handle) (wu : WF h u)
    (hb : (h'.buf u.buf).bytes = (h.buf u.buf).bytes) (hrc : 1 ≤ (h'.buf u.buf).rc) (hn : h.next ≤ h'.next) :
    WF h' u ∧ bits h' u = bits h u := by
  refine ⟨⟨⟨wu.view.le, ?_, ?_⟩, Nat.lt_of_lt_of_le wu.alloc hn, hrc⟩, ?_⟩
  · have := wu.view.bound; simpa [Heap.view, hb] using this
  · have := wu.view.bytes; simpa [Heap.view, hb] using this
  · simp [bits, Heap.view, hb]

theorem WF_incRc (h : Heap) (b : Nat) (s : Handle) (wf : WF h s) : WF (h.incRc b) s :=
  (WF_transfer h _ s wf (incRc_bytes h b s.buf) (Nat.le_trans wf.live (incRc_rc_ge h b s.buf)) (Nat.le_refl _)).1

theorem WF_sub (h : Heap) (s : Handle) (wf : WF h s) (a b : Nat) (h1 : a ≤ b) (h2 : b ≤ s.end_) :
    WF h { s with start := a, end_ := b } :=
  ⟨⟨h1, Nat.le_trans h2 wf.view.bound, wf.view.bytes⟩, wf.alloc, wf.live⟩

theorem keep_alloc (h : Heap) (bytes : List Nat) (bw : Bool) (s : Handle) (w : WF h s) :
    WF (h.alloc bytes bw).1 s ∧ bits (h.alloc bytes bw).1 s = bits h s := by
  have hb := alloc_buf_ne h bytes bw (Nat.ne_of_lt w.alloc)
  exact WF_transfer h _ s w (by rw [hb]) (by rw [hb]; exact w.live) (Nat.le_succ _)

theorem keep_decRc (h : Heap) (b : Nat) (s : Handle) (w : WF h s) (hs : s.buf = b → 2 ≤ (h.buf b).rc) :
    WF (h.decRc b) s ∧ bits (h.decRc b) s = bits h s := by
  refine WF_transfer h _ s w (by simp) ?_ (by simp)
  by_cases hb : s.buf = b
  · rw [hb, decRc_rc_self]; have := hs hb; omega
  · rw [decRc_buf_ne _ _ _ hb]; exact w.live

theorem WF_decRc_other (h : Heap) (b : Nat) (t : Handle) (wf : WF h t) (hne : t.buf ≠ b) : WF (h.decRc b) t :=
  (keep_decRc h b t wf fun e => absurd e hne).1

theorem alloc_view (h : Heap) (bytes : List Nat) (bw : Bool) (a b : Nat) :
    (h.alloc bytes bw).1.view ⟨a, b, (h.alloc bytes bw).2⟩ = ⟨bytes, a, b⟩ := by
  simp [Heap.alloc, Heap.view]

theorem alloc_WF (h : Heap) (bytes : List Nat) (bw : Bool) (a b : Nat) (hab : a ≤ b)
    (hb : b ≤ 8 * bytes.length) (hlt : ∀ x ∈ bytes, x < 256) :
    WF (h.alloc bytes bw).1 ⟨a, b, (h.alloc bytes bw).2⟩ := by
  refine ⟨?_, Nat.lt_succ_self _, ?_⟩
  · rw [alloc_view]; exact ⟨hab, hb, hlt⟩
  · show 1 ≤ ((h.alloc bytes bw).1.buf h.next).rc
    rw [alloc_buf_self]; exact Nat.le_refl _

/-- a freshly allocated packed buffer denotes the bits that were packed -/
theorem alloc_pack (h : Heap) (l : List Bool) :
    WF (h.alloc (pack l) false).1 ⟨0, l.length, (h.alloc (pack l) false).2⟩ ∧
      bits (h.alloc (pack l) false).1 ⟨0, l.length, (h.alloc (pack l) false).2⟩ = l := by
  refine ⟨alloc_WF h _ false 0 _ (Nat.zero_le _) (by rw [length_pack]; omega) (pack_lt l), ?_⟩
  unfold bits
  rw [alloc_view]
  exact (slice_pack l 0 _ (Nat.le_refl _)).trans (slice_full l)

theorem checkedAdd_some {a b c : Nat} (h : checkedAdd a b = some c) : c = a + b := by
  unfold checkedAdd at h; split at h <;> simp_all

end Xeh.Bitstr
