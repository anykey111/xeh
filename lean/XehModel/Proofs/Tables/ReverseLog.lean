/-
Tie B, tables (DESIGN §4.2) — where the reverse log changes (method: Proofs/LeafTables.lean).
-/
import XehModel.Generated.Tables

namespace Xeh.LeafBridge
open Xeh.Generated

/-- Where the reverse log can change: records are appended by `add_reverse_step` (the one function the logged primitives
    call); one record at a time is taken off by `rnext`; the log is cut back to a mark by `build_unwind` and
    `forget_build_log`; `set_recording_enabled` creates or drops it. A forward step (`next`, `run`) never shortens it. -/
def expectedReverseLogSites : List (String × String × String) := [
  ("as_mut:truncate", "forget_build_log", "state.rs"),
  ("as_mut:truncate", "build_unwind", "state.rs"),
  ("as_mut:pop", "rnext", "state.rs"),
  ("=", "set_recording_enabled", "state.rs"),
  ("=", "set_recording_enabled", "state.rs"),
  ("as_mut:push", "add_reverse_step", "state.rs")
]

theorem reverse_log_sites_match : src_reverse_log_sites = expectedReverseLogSites := rfl

theorem forward_steps_only_append_to_the_log :
    ∀ r ∈ src_reverse_log_sites, r.2.1 ∉ ["forget_build_log", "build_unwind", "rnext", "set_recording_enabled"] →
      r.1 = "as_mut:push" ∧ r.2.1 = "add_reverse_step" := by
  rw [reverse_log_sites_match]; decide +kernel

end Xeh.LeafBridge
