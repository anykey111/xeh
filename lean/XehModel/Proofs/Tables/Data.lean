/-
Tie B, tables (DESIGN §4.2) — the macro-generated `uN / iN / fN` data words of bitstr_ext.rs (method: Proofs/LeafTables.lean).
-/
import XehModel.Generated.Tables

namespace Xeh.LeafBridge
open Xeh.Generated

def expectedDataWords : List (String × String) :=
  (["8", "16", "32", "64"].flatMap fun n => [
    ("u" ++ n, "|xs|read_unsigned_n(xs," ++ n ++ ")"),
    ("u" ++ n ++ "le", "|xs|read_unsigned(xs," ++ n ++ ",Byteorder::Little)"),
    ("u" ++ n ++ "be", "|xs|read_unsigned(xs," ++ n ++ ",Byteorder::Big)"),
    ("i" ++ n, "|xs|read_signed_n(xs," ++ n ++ ")"),
    ("i" ++ n ++ "le", "|xs|read_signed(xs," ++ n ++ ",Byteorder::Little)"),
    ("i" ++ n ++ "be", "|xs|read_signed(xs," ++ n ++ ",Byteorder::Big)"),
    ("u" ++ n ++ "!", "|xs|pack_int(xs," ++ n ++ ")"),
    ("u" ++ n ++ "le!", "|xs|pack_int_bo(xs," ++ n ++ ",Byteorder::Little)"),
    ("u" ++ n ++ "be!", "|xs|pack_int_bo(xs," ++ n ++ ",Byteorder::Big)"),
    ("i" ++ n ++ "!", "|xs|pack_int(xs," ++ n ++ ")"),
    ("i" ++ n ++ "le!", "|xs|pack_int_bo(xs," ++ n ++ ",Byteorder::Little)"),
    ("i" ++ n ++ "be!", "|xs|pack_int_bo(xs," ++ n ++ ",Byteorder::Big)")]) ++
  (["32", "64"].flatMap fun n => [
    ("f" ++ n, "|xs|read_float_n(xs," ++ n ++ ")"),
    ("f" ++ n ++ "le", "|xs|read_float(xs," ++ n ++ ",Byteorder::Little)"),
    ("f" ++ n ++ "be", "|xs|read_float(xs," ++ n ++ ",Byteorder::Big)"),
    ("f" ++ n ++ "!", "|xs|pack_float(xs," ++ n ++ ")"),
    ("f" ++ n ++ "le!", "|xs|pack_float_bo(xs," ++ n ++ ",Byteorder::Little)"),
    ("f" ++ n ++ "be!", "|xs|pack_float_bo(xs," ++ n ++ ",Byteorder::Big)")])

theorem data_words_match : src_data_words = expectedDataWords := by decide +kernel

end Xeh.LeafBridge
