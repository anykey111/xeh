/-
C05 — number ↔ bits codecs are exact inverses and independent of alignment.

Property theorems only (helpers: Proofs/BitsLemmas, BitstrLemmas, BitstrHeap, BitstrCodec, CursorBitsLemmas).
Every statement quantifies over every heap `h` and every well-formed handle `s`: any start offset,
any slack after `end_`, any stale bits outside the range, borrowed or owned, shared or unique.
The right-hand sides mention only `bits h s` (the denoted bit sequence), hence offset independence.

PROVED here: toUint_be/le (+exact), offset independence (uint, int, floats), toInt_spec, fromInt_wf,
fromInt_bits_be, fromInt_toUint, fromInt_toInt, sext_mod_id, byte_layout_le/be, f32/f64 round trips.
`byte_layout_*` are stated with `(v % 2^128).toNat` (= `v as u128`); `leBytes k`/`beBytes k` read only its low
8k bits.  NOT carried by theorems (correspondence + oracle only): the language words (thin layer over these
functions, Driver/C05.lean) and the hardware conversions `f64 as f32` / `f32 as f64` inside `f32!` / `f32`.
Outside the property (widths > 128): `from_int` uses `i128::wrapping_shr`, whose count is masked with 127; the
model reproduces that (`shrByte`), the theorems assume `n ≤ 128`.
-/
import XehModel.Proofs.BitstrCodec

namespace Xeh.C05
open Xeh Xeh.Bits Xeh.Bitstr

/-- big-endian `to_uint` = the MSB-first value of the bit sequence (low 128 bits: `acc << n` drops the rest) -/
theorem toUint_be (h : Heap) (s : Handle) (wf : WF h s) :
    (h.view s).toUint .big = .ok (beVal (bits h s) % 2 ^ 128) :=
  View.toUint_be_spec _ wf.view

/-- little-endian `to_uint` = byte groups counted from the value's first bit, group k at shift 8k -/
theorem toUint_le (h : Heap) (s : Handle) (wf : WF h s) :
    (h.view s).toUint .little = .ok (leVal (bits h s) % 2 ^ 128) :=
  View.toUint_le_spec _ wf.view

/-- within the property's width range nothing is truncated -/
theorem toUint_be_exact (h : Heap) (s : Handle) (wf : WF h s) (hw : s.end_ - s.start ≤ 128) :
    (h.view s).toUint .big = .ok (beVal (bits h s)) := by
  rw [toUint_be h s wf, mod_pow128 (bits_length h s wf ▸ beVal_lt (bits h s)) hw]

theorem toUint_le_exact (h : Heap) (s : Handle) (wf : WF h s) (hw : s.end_ - s.start ≤ 128) :
    (h.view s).toUint .little = .ok (leVal (bits h s)) := by
  rw [toUint_le h s wf, mod_pow128 (bits_length h s wf ▸ leVal_lt (bits h s)) hw]

/-- the decoded number is a function of the bit sequence alone: two handles — in any two heaps, at any
    two offsets, with any surroundings — that denote the same bits decode to the same number -/
theorem toUint_offset_independent (h₁ h₂ : Heap) (s₁ s₂ : Handle) (wf₁ : WF h₁ s₁) (wf₂ : WF h₂ s₂)
    (heq : bits h₁ s₁ = bits h₂ s₂) (o : Byteorder) :
    (h₁.view s₁).toUint o = (h₂.view s₂).toUint o := by
  cases o
  · rw [toUint_le h₁ s₁ wf₁, toUint_le h₂ s₂ wf₂, heq]
  · rw [toUint_be h₁ s₁ wf₁, toUint_be h₂ s₂ wf₂, heq]

/-! ### signed decoding -/

/-- `to_int` is the two's-complement reading of `to_uint` for every width 1..128 (both orders) -/
theorem toInt_spec (h : Heap) (s : Handle) (wf : WF h s) (o : Byteorder)
    (h1 : 1 ≤ s.end_ - s.start) (h128 : s.end_ - s.start ≤ 128) :
    ∃ u, (h.view s).toUint o = .ok u ∧ u < 2 ^ (s.end_ - s.start) ∧
      (h.view s).toInt o = .ok (sext (s.end_ - s.start) u) := by
  have hle := leVal_lt (bits h s)
  have hbe := beVal_lt (bits h s)
  rw [bits_length h s wf] at hle hbe
  cases o
  · exact ⟨_, toUint_le_exact h s wf h128, hle, View.toInt_spec _ _ _ (toUint_le_exact h s wf h128) hle h1 h128⟩
  · exact ⟨_, toUint_be_exact h s wf h128, hbe, View.toInt_spec _ _ _ (toUint_be_exact h s wf h128) hbe h1 h128⟩

theorem toInt_offset_independent (h₁ h₂ : Heap) (s₁ s₂ : Handle) (wf₁ : WF h₁ s₁) (wf₂ : WF h₂ s₂)
    (heq : bits h₁ s₁ = bits h₂ s₂) (o : Byteorder) :
    (h₁.view s₁).toInt o = (h₂.view s₂).toInt o := by
  have hu := toUint_offset_independent h₁ h₂ s₁ s₂ wf₁ wf₂ heq o
  have hl : s₁.end_ - s₁.start = s₂.end_ - s₂.start := by
    rw [← bits_length h₁ s₁ wf₁, ← bits_length h₂ s₂ wf₂, heq]
  exact toInt_congr _ _ o hu hl

/-! ### packing: `from_int` for every width up to 128, every `Int` value (values wider than the field included) -/

/-- the packed value is well-formed and has exactly `n` bits -/
theorem fromInt_wf (h : Heap) (v : Int) (n : Nat) (o : Byteorder) :
    WF (fromInt h v n o).1 (fromInt h v n o).2 ∧ ((fromInt h v n o).2.end_ - (fromInt h v n o).2.start = n) :=
  ⟨fromInt_WF h v n o, rfl⟩

/-- big-endian packing writes the `n` low bits of the value, most significant first -/
theorem fromInt_bits_be (h : Heap) (v : Int) (n : Nat) (hn : n ≤ 128) :
    bits (fromInt h v n .big).1 (fromInt h v n .big).2 = bitsOfNat n (v % 2 ^ n).toNat := by
  rw [fromInt_bits]
  exact (Cur.fromIntBEgo_eq v n n (Nat.le_refl _) hn).trans
    (by rw [← bitsOfNat_mod, emod_toNat_mod v n 128 hn])

/-- packing then unpacking returns the value reduced modulo 2^n (unsigned), both byte orders -/
theorem fromInt_toUint (h : Heap) (v : Int) (n : Nat) (o : Byteorder) (hn : n ≤ 128) :
    ((fromInt h v n o).1.view (fromInt h v n o).2).toUint o = .ok (v % 2 ^ n).toNat := by
  have wf := fromInt_WF h v n o
  cases o
  · rw [toUint_le_exact _ _ wf hn, fromInt_bits, ← Cur.leVal_eq]
    exact congrArg _ (Cur.toUint_fromInt false v n hn)
  · rw [toUint_be_exact _ _ wf hn, fromInt_bits, ← Cur.beVal_eq]
    exact congrArg _ (Cur.toUint_fromInt true v n hn)

/-- … and two's-complement sign extension of that for the signed reading -/
theorem fromInt_toInt (h : Heap) (v : Int) (n : Nat) (o : Byteorder) (h1 : 1 ≤ n) (hn : n ≤ 128) :
    ((fromInt h v n o).1.view (fromInt h v n o).2).toInt o = .ok (sext n (v % 2 ^ n).toNat) := by
  have hu := fromInt_toUint h v n o hn
  exact View.toInt_spec _ o _ hu (emod_toNat_lt v n) h1 hn

/-- a value inside the signed range of the field survives the signed round trip unchanged -/
theorem sext_mod_id (v : Int) (n : Nat) (h1 : 1 ≤ n) (hlo : -(2 : Int) ^ (n - 1) ≤ v) (hhi : v < 2 ^ (n - 1)) :
    sext n (v % 2 ^ n).toNat = v := by
  have hp : (2 : Int) ^ n = 2 * 2 ^ (n - 1) := by
    have : n = (n - 1) + 1 := by omega
    conv => lhs; rw [this, Int.pow_succ]
    omega
  have hpn : (2 : Nat) ^ n = 2 * 2 ^ (n - 1) := by
    have : n = (n - 1) + 1 := by omega
    conv => lhs; rw [this, Nat.pow_succ]
    omega
  have hP : (0 : Int) < 2 ^ (n - 1) := Int.pow_pos (by decide)
  have hc : ((2 ^ (n - 1) : Nat) : Int) = (2 : Int) ^ (n - 1) := by simp
  unfold sext
  by_cases hv : 0 ≤ v
  · have : v % 2 ^ n = v := Int.emod_eq_of_lt hv (by omega)
    rw [this]
    have hvn : ((v.toNat : Nat) : Int) = v := Int.toNat_of_nonneg hv
    rw [if_pos (by omega), hvn]
  · have : v % 2 ^ n = v + 2 ^ n := by
      have h2 : (v + 2 ^ n) % 2 ^ n = v % 2 ^ n := Int.add_emod_right ..
      rw [← h2]; exact Int.emod_eq_of_lt (by omega) (by omega)
    rw [this]
    have hvn : (((v + 2 ^ n).toNat : Nat) : Int) = v + 2 ^ n := Int.toNat_of_nonneg (by omega)
    rw [if_neg (by omega), hvn]; omega

/-! ### byte-multiple widths agree with the platform's standard byte layouts -/

theorem byte_layout_le (v : Int) (n : Nat) (h8 : n % 8 = 0) (hn : n ≤ 128) :
    fromIntBytes v n .little = leBytes (n / 8) (v % 2 ^ 128).toNat := by
  obtain ⟨K, rfl⟩ : ∃ K, n = 8 * K := ⟨n / 8, by omega⟩
  rw [Nat.mul_div_cancel_left K (by decide : 0 < 8)]
  have := fromIntLE_bytes v K (by omega) (8 * K) 0 (by omega) (Nat.zero_le _)
  rwa [Nat.pow_zero, Nat.div_one, Nat.sub_zero] at this

theorem byte_layout_be (v : Int) (n : Nat) (h8 : n % 8 = 0) (hn : n ≤ 128) :
    fromIntBytes v n .big = beBytes (n / 8) (v % 2 ^ 128).toNat := by
  obtain ⟨K, rfl⟩ : ∃ K, n = 8 * K := ⟨n / 8, by omega⟩
  rw [Nat.mul_div_cancel_left K (by decide : 0 < 8)]
  exact fromIntBE_bytes v (8 * K) K (Nat.le_refl _) (by omega)

/-! ### floats: bit patterns round-trip exactly (NaN payloads, infinities, subnormals are just patterns) -/

theorem f32_bits_roundtrip (h : Heap) (x : Nat) (hx : x < 2 ^ 32) (o : Byteorder) :
    ((fromF32 h x o).1.view (fromF32 h x o).2).toF32 o = .ok x :=
  floatBits_roundtrip h 4 x hx o

theorem f64_bits_roundtrip (h : Heap) (x : Nat) (hx : x < 2 ^ 64) (o : Byteorder) :
    ((fromF64 h x o).1.view (fromF64 h x o).2).toF64 o = .ok x :=
  floatBits_roundtrip h 8 x hx o

/-- float decoding reads the value only through `iter8`, i.e. it is a function of the bit sequence -/
theorem toFloat_offset_independent (h₁ h₂ : Heap) (s₁ s₂ : Handle) (wf₁ : WF h₁ s₁) (wf₂ : WF h₂ s₂)
    (heq : bits h₁ s₁ = bits h₂ s₂) (k : Nat) (o : Byteorder) :
    (h₁.view s₁).toFloatBits k o = (h₂.view s₂).toFloatBits k o := by
  unfold View.toFloatBits
  rw [View.iter8_spec _ wf₁.view, View.iter8_spec _ wf₂.view]
  have : (h₁.view s₁).bits = (h₂.view s₂).bits := heq
  rw [this]

/-- a non-trivial instance: a 13-bit negative value -/
example : sext 13 ((-3 : Int) % 2 ^ 13).toNat = -3 := by decide

/-- hypotheses are satisfiable by a non-trivial state: a 13-bit field at bit offset 3 of a shared buffer -/
example : WF (fromVec Heap.empty [0xab, 0xcd, 0xef]).1 ⟨3, 16, 0⟩ := by
  refine ⟨⟨by decide, by decide, ?_⟩, by decide, by decide⟩
  intro b hb
  simp [fromVec, Heap.alloc, Heap.view, Heap.empty] at hb
  omega

end Xeh.C05
