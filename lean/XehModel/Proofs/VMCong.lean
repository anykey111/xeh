/-
Two machines that the VM cannot tell apart. `Rel` is a congruence for the primitives (`PrimCong`) when related machines
agree on what the primitives read and every write they make keeps them related; for `fetch` (`FetchCong`) when they also
agree on ip, code and dictionary; for `step` (`StepCong`) when the count agrees wherever it is read (`FetchCong.noLimit`:
always, without a limit). Then primitives, native words, opcodes, `step`, `next`, `run` answer alike and stay related.
-/
import XehModel.Proofs.VMBuilt

namespace Xeh.Mach

variable {Rel : Mach → Mach → Prop} {α β : Type}

def SimBy (Rel : Mach → Mach → Prop) {α : Type} (ra rb : R α) : Prop := ra.1 = rb.1 ∧ Rel ra.2 rb.2

theorem SimBy.pure (o : Outcome α) {m m' : Mach} (h : Rel m m') : SimBy Rel (o, m) (o, m') := ⟨rfl, h⟩

theorem bindR_sim {x y : R α} {f g : α → Mach → R β} (hx : SimBy Rel x y)
    (hf : ∀ a m m', Rel m m' → SimBy Rel (f a m) (g a m')) : SimBy Rel (bindR x f) (bindR y g) := by
  obtain ⟨ox, mx⟩ := x
  obtain ⟨oy, my⟩ := y
  obtain ⟨h1, h2⟩ := hx
  dsimp only at h1 h2
  subst h1
  cases ox with
  | ok a => exact hf a mx my h2
  | err e => exact ⟨rfl, h2⟩
  | panic s => exact ⟨rfl, h2⟩

theorem bindR_sim_pure {x y : R α} (k : α → Outcome β) (hx : SimBy Rel x y) :
    SimBy Rel (bindR x fun a m => (k a, m)) (bindR y fun a m => (k a, m)) :=
  bindR_sim hx fun _ _ _ h => .pure _ h

structure PrimCong (Rel : Mach → Mach → Prop) : Prop where
  view : ∀ {a b}, Rel a b → seen a = seen b
  log : ∀ {a b} (s : RStep), Rel a b → Rel (a.logStep s) (b.logStep s)
  setDs : ∀ {a b} (x : List Cell), Rel a b → Rel { a with ds := x } { b with ds := x }
  setRs : ∀ {a b} (x : List Frame), Rel a b → Rel { a with rs := x } { b with rs := x }
  setLoops : ∀ {a b} (x : List Loop), Rel a b → Rel { a with loops := x } { b with loops := x }
  setSpecial : ∀ {a b} (x : List Nat), Rel a b → Rel { a with special := x } { b with special := x }
  setHeap : ∀ {a b} (x : List Cell), Rel a b → Rel { a with heap := x } { b with heap := x }
  out : ∀ {a b} (s : List Char), Rel a b → Rel { a with out := a.out ++ s } { b with out := b.out ++ s }
  stop : ∀ {a b}, Rel a b → Rel { a with aboutToStop := true } { b with aboutToStop := true }
  setIp : ∀ {a b} (n : Nat), Rel a b → Rel (a.setIp n) (b.setIp n)
  nextIp : ∀ {a b}, Rel a b → Rel a.nextIp b.nextIp

namespace PrimCong
variable (C : PrimCong Rel) {a b : Mach} (h : Rel a b)
include C h

theorem ds : a.ds = b.ds := congrArg Seen.ds (C.view h)
theorem rs : a.rs = b.rs := congrArg Seen.rs (C.view h)
theorem loops : a.loops = b.loops := congrArg Seen.loops (C.view h)
theorem special : a.special = b.special := congrArg Seen.special (C.view h)
theorem heap : a.heap = b.heap := congrArg Seen.heap (C.view h)
theorem stackLimit : a.stackLimit = b.stackLimit := congrArg Seen.stackLimit (C.view h)
theorem dsLen : a.ctx.dsLen = b.ctx.dsLen := congrArg Seen.dsLen (C.view h)
theorem rsLen : a.ctx.rsLen = b.ctx.rsLen := congrArg Seen.rsLen (C.view h)
theorem lsLen : a.ctx.lsLen = b.ctx.lsLen := congrArg Seen.lsLen (C.view h)
theorem ssPtr : a.ctx.ssPtr = b.ctx.ssPtr := congrArg Seen.ssPtr (C.view h)
theorem mode : a.ctx.mode = b.ctx.mode := congrArg Seen.mode (C.view h)

theorem pushData (c : Cell) : SimBy Rel (a.pushData c) (b.pushData c) := by
  unfold Mach.pushData
  rw [C.stackLimit h, C.ds h]
  split
  · split
    · exact ⟨rfl, h⟩
    · exact ⟨rfl, C.setDs _ (C.log _ h)⟩
  · exact ⟨rfl, C.setDs _ (C.log _ h)⟩

/-- rewrite what is read to the right-hand machine, then both sides branch alike -/
theorem prim {fr : Bool} {x : Mach → R α} (hx : IsPrim fr x) : SimBy Rel (x a) (x b) := by
  -- a guarded write: both sides have been rewritten to read the same, the write is a log entry and one field
  have wr : ∀ {β : Type} {P : Prop} [Decidable P] {o : Outcome β} {e : Xerr} {a' b' : Mach}, Rel a' b' →
      SimBy Rel (if P then (o, a') else (.err e, a)) (if P then (o, b') else (.err e, b)) := fun h' => by
    split
    · exact ⟨rfl, h'⟩
    · exact ⟨rfl, h⟩
  cases hx <;> try dsimp only
  case read f => rw [C.view h]; exact ⟨rfl, h⟩
  case topData =>
    unfold Mach.topData
    rw [C.ds h, C.dsLen h]
    split
    · split <;> exact ⟨rfl, h⟩
    · exact ⟨rfl, h⟩
  case cellRef i => unfold Mach.cellRef; rw [C.mode h, C.heap h]; exact ⟨rfl, h⟩
  case topFrame => unfold Mach.topFrame; rw [C.rs h, C.rsLen h]; exact ⟨rfl, h⟩
  case pushData c => exact C.pushData h c
  case popData =>
    unfold Mach.popData
    rw [C.ds h, C.dsLen h]
    split
    · exact wr (C.setDs _ (C.log _ h))
    · exact ⟨rfl, h⟩
  case swapData =>
    unfold Mach.swapData
    rw [C.ds h, C.dsLen h]
    split
    · exact wr (C.setDs _ (C.log _ h))
    · exact ⟨rfl, h⟩
  case rotData =>
    unfold Mach.rotData
    rw [C.ds h, C.dsLen h]
    split
    · exact wr (C.setDs _ (C.log _ h))
    · exact ⟨rfl, h⟩
  case overData =>
    unfold Mach.overData
    rw [C.ds h, C.dsLen h]
    split
    · split
      · exact C.pushData (C.log _ h) _
      · exact ⟨rfl, h⟩
    · exact ⟨rfl, h⟩
  case pushSpecial p => unfold Mach.pushSpecial; rw [C.special h]; exact ⟨rfl, C.setSpecial _ (C.log _ h)⟩
  case popSpecial =>
    unfold Mach.popSpecial
    rw [C.special h, C.ssPtr h]
    split
    · split
      · exact ⟨rfl, C.setSpecial _ (C.log _ h)⟩
      · exact ⟨rfl, h⟩
    · exact ⟨rfl, h⟩
  case swapCellRef i v =>
    unfold Mach.swapCellRef
    rw [C.mode h, C.heap h]
    split
    · exact ⟨rfl, h⟩
    · split
      · exact ⟨rfl, C.setHeap _ (C.log _ h)⟩
      · exact ⟨rfl, h⟩
  case setLoopItems c =>
    unfold Mach.setLoopItems
    rw [C.loops h, C.lsLen h]
    split
    · exact wr (C.log _ (C.setLoops _ h))
    · exact ⟨rfl, h⟩
  case loopNext =>
    unfold Mach.loopNext
    rw [C.loops h, C.lsLen h]
    split
    · exact wr (C.log _ (C.setLoops _ h))
    · exact ⟨rfl, h⟩
  case initLocalTop i v =>
    unfold Mach.initLocalTop
    rw [C.rs h, C.rsLen h]
    split
    · exact wr (C.log _ (C.setRs _ h))
    · exact ⟨rfl, h⟩
  case out s => exact ⟨rfl, C.out s h⟩
  case stop => exact ⟨rfl, C.stop h⟩
  case pushReturn f => unfold Mach.pushReturn; rw [C.rs h]; exact ⟨rfl, C.setRs _ (C.log _ h)⟩
  case popReturn =>
    unfold Mach.popReturn
    rw [C.rs h, C.rsLen h]
    split
    · exact wr (C.setRs _ (C.log _ h))
    · exact ⟨rfl, h⟩
  case pushLoop l => unfold Mach.pushLoop; rw [C.loops h]; exact ⟨rfl, C.setLoops _ (C.log _ h)⟩
  case popLoop =>
    unfold Mach.popLoop
    rw [C.loops h, C.lsLen h]
    split
    · exact wr (C.setLoops _ (C.log _ h))
    · exact ⟨rfl, h⟩

omit h in
theorem built {fr : Bool} {x : Mach → R α} (hx : Built fr x) : ∀ {a b : Mach}, Rel a b → SimBy Rel (x a) (x b) := by
  induction hx with
  | prim hp => exact fun h => C.prim h hp
  | bind _ _ ihx ihf => exact fun h => bindR_sim (ihx h) fun c _ _ => ihf c

theorem popData : SimBy Rel a.popData b.popData := C.prim h (fr := true) .popData

theorem runProg (p : Prog) : SimBy Rel (Mach.runProg p a) (Mach.runProg p b) := C.built (fr := true) (.runProg p) h

theorem execBody (np : String → Option Prog) (ip : Nat) (op : Op) :
    SimBy Rel (a.execBody np ip op) (b.execBody np ip op) := C.built (.execBody np ip op fun _ => rfl) h

theorem goto (d : Dest) : Rel (a.goto d) (b.goto d) := by
  cases d with
  | next => exact C.nextIp h
  | to n => exact C.setIp n h

theorem exec (np : String → Option Prog) (ip : Nat) (op : Op) : SimBy Rel (a.exec np ip op) (b.exec np ip op) := by
  rw [exec_eq, exec_eq]
  exact bindR_sim (C.execBody h np ip op) fun d _ _ h => ⟨rfl, C.goto h d⟩

end PrimCong

structure FetchCong (Rel : Mach → Mach → Prop) : Prop extends PrimCong Rel where
  ip : ∀ {a b}, Rel a b → a.ctx.ip = b.ctx.ip
  code : ∀ {a b}, Rel a b → a.code = b.code
  dict : ∀ {a b}, Rel a b → a.dict = b.dict
  setCode : ∀ {a b} (c : List Op), Rel a b → Rel { a with code := c } { b with code := c }
  insnLimit : ∀ {a b}, Rel a b → a.insnLimit = b.insnLimit
  tick : ∀ {a b}, Rel a b → Rel { a with meter := a.meter + 1 } { b with meter := b.meter + 1 }

/-- the count is read only against a limit: related machines have none, or the same count -/
structure StepCong (Rel : Mach → Mach → Prop) : Prop extends FetchCong Rel where
  meter : ∀ {a b}, Rel a b → a.insnLimit = none ∨ a.meter = b.meter

/-- nothing the VM does sets a limit, so a relation that forgets the count is a congruence for `step` between
    machines without one -/
theorem FetchCong.noLimit (C : FetchCong Rel) : StepCong fun a b => Rel a b ∧ a.insnLimit = none where
  view h := C.view h.1
  log s h := ⟨C.log s h.1, h.2⟩
  setDs x h := ⟨C.setDs x h.1, h.2⟩
  setRs x h := ⟨C.setRs x h.1, h.2⟩
  setLoops x h := ⟨C.setLoops x h.1, h.2⟩
  setSpecial x h := ⟨C.setSpecial x h.1, h.2⟩
  setHeap x h := ⟨C.setHeap x h.1, h.2⟩
  out s h := ⟨C.out s h.1, h.2⟩
  stop h := ⟨C.stop h.1, h.2⟩
  setIp n h := ⟨C.setIp n h.1, h.2⟩
  nextIp h := ⟨C.nextIp h.1, h.2⟩
  ip h := C.ip h.1
  code h := C.code h.1
  dict h := C.dict h.1
  setCode c h := ⟨C.setCode c h.1, h.2⟩
  insnLimit h := C.insnLimit h.1
  tick h := ⟨C.tick h.1, h.2⟩
  meter h := .inl h.2

def RunBy (Rel : Mach → Mach → Prop) : Option (R Unit) → Option (R Unit) → Prop
  | none, none => True
  | some ra, some rb => SimBy Rel ra rb
  | _, _ => False

theorem RunBy.mono {Rel' : Mach → Mach → Prop} (hr : ∀ a b, Rel a b → Rel' a b) {x y : Option (R Unit)}
    (h : RunBy Rel x y) : RunBy Rel' x y := by
  cases x <;> cases y
  · trivial
  · exact h
  · exact h
  · exact ⟨h.1, hr _ _ h.2⟩

namespace StepCong
variable (C : StepCong Rel) {a b : Mach} (h : Rel a b)
include C h

theorem meterIncrease : SimBy Rel a.meterIncrease b.meterIncrease := by
  cases hl : a.insnLimit with
  | none =>
    rw [meterIncrease_of_none hl, meterIncrease_of_none ((C.insnLimit h).symm.trans hl)]
    exact ⟨rfl, C.tick h⟩
  | some lim =>
    have hm : a.meter = b.meter := (C.meter h).resolve_left (by rw [hl]; nofun)
    have t := C.tick h
    rw [meterIncrease_of_some hl, meterIncrease_of_some ((C.insnLimit h).symm.trans hl)]
    rw [hm] at t ⊢
    split
    · exact ⟨rfl, h⟩
    · exact ⟨rfl, t⟩

theorem patchCode (ip : Nat) (op : Op) : Rel (a.patchCode ip op) (b.patchCode ip op) := by
  unfold Mach.patchCode
  rw [C.mode h, C.code h]
  split
  · exact h
  · exact C.setCode _ h

theorem resolveOp (name : String) : a.resolveOp name = b.resolveOp name := by
  unfold Mach.resolveOp
  rw [C.dict h]

theorem fetch : SimBy Rel a.fetch b.fetch := by
  unfold Mach.fetch
  rw [C.ip h]
  refine bindR_sim (C.meterIncrease h) fun _ m m' h => ?_
  rw [C.code h]
  split
  · exact ⟨rfl, h⟩
  · rw [C.resolveOp h]
    exact bindR_sim (.pure _ h) fun op _ _ h => bindR_sim_pure _ (C.meterIncrease (C.patchCode h _ op))
  · exact ⟨rfl, h⟩

theorem step (np : String → Option Prog) : SimBy Rel (a.step np) (b.step np) := by
  rw [step_eq, step_eq, C.ip h]
  exact bindR_sim (C.fetch h) fun op _ _ h => C.toPrimCong.exec h np _ op

theorem isRunning : a.isRunning = b.isRunning := by
  unfold Mach.isRunning
  rw [C.ip h, C.code h]

theorem next (np : String → Option Prog) : SimBy Rel (a.next np) (b.next np) := by
  unfold Mach.next
  rw [C.isRunning h]
  split
  · exact C.step h np
  · exact ⟨rfl, h⟩

omit h in
theorem run (np : String → Option Prog) (fuel : Nat) :
    ∀ {a b : Mach}, Rel a b → RunBy Rel (Mach.run np fuel a) (Mach.run np fuel b) := by
  induction fuel with
  | zero =>
    intro a b h
    simp only [Mach.run, C.isRunning h]
    split
    · trivial
    · exact ⟨rfl, h⟩
  | succ fuel ih =>
    intro a b h
    simp only [Mach.run, C.isRunning h]
    split
    · obtain ⟨h1, h2⟩ := C.step h np
      revert h1 h2
      generalize Mach.step np a = ra
      generalize Mach.step np b = rb
      obtain ⟨oa, ma⟩ := ra
      obtain ⟨ob, mb⟩ := rb
      intro h1 h2
      dsimp only at h1 h2
      subst h1
      cases oa with
      | ok u => exact ih h2
      | err e => exact ⟨rfl, h2⟩
      | panic s => exact ⟨rfl, h2⟩
    · exact ⟨rfl, h⟩

end StepCong

end Xeh.Mach
