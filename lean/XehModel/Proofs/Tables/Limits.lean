/-
Tie B, tables (DESIGN §4.2) — the three limit comparisons and every write of the limit bookkeeping (method: Proofs/LeafTables.lean).
-/
import XehModel.Generated.Tables

namespace Xeh.LeafBridge
open Xeh.Generated

/-- each test compares the *current* size with `>=` against the limit, so a limit of `n` admits exactly `n` cells / heap
    slots / instructions -/
def expectedLimitChecks : List (String × String × String × String × String × String) := [
  ("check_stack_limit", "self.data_stack.len()", ">=", "limit", "self.stack_limit.unwrap_or(usize::MAX)", "return Err(Xerr::ErrorMsg(..))"),
  ("check_heap_limit", "self.heap.len()", ">=", "limit", "self.heap_limit.unwrap_or(usize::MAX)", "return Err(Xerr::ErrorMsg(..))"),
  ("insn_meter_increase", "self.insn_meter", ">=", "limit", "self.insn_limit.unwrap_or(usize::MAX)", "return Err(Xerr::ErrorMsg(..))")
]

theorem limit_comparisons_match_source :
    src_limit_checks = expectedLimitChecks ∧
    src_limit_effects = [("insn_meter_increase", "self.insn_meter+=1")] := ⟨rfl, rfl⟩

/-- Every write of `insn_meter insn_limit stack_limit heap_limit` (assignments, compound assignments and mutable borrows,
    anywhere in the crate outside `#[cfg(test)]` and the `verif_hooks` block).  This is what lets the machine-level
    theorems of Props/C14.lean (the meter only grows while the limit stays set) speak about whole histories of host calls. -/
def expectedLimitFieldWrites : List (String × String × String) := [
  ("self.stack_limit=limit", "set_stack_limit", "state.rs"),
  ("self.heap_limit=limit", "set_heap_limit", "state.rs"),
  ("self.insn_meter=0", "set_insn_limit", "state.rs"),
  ("self.insn_limit=limit", "set_insn_limit", "state.rs"),
  ("self.insn_meter+=1", "insn_meter_increase", "state.rs")
]

theorem limit_fields_written_only_by_their_setters : src_limit_field_writes = expectedLimitFieldWrites := rfl

theorem meter_only_counts_up_between_settings :
    ∀ r ∈ src_limit_field_writes, r.2.1 ≠ "set_insn_limit" →
      r.1 = "self.insn_meter+=1" ∨ r.1 = "self.stack_limit=limit" ∨ r.1 = "self.heap_limit=limit" := by
  rw [limit_fields_written_only_by_their_setters]; decide +kernel

end Xeh.LeafBridge
