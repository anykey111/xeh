/-
`pack l`: the bytes that hold the bit list `l` from the first bit of the first byte, the last byte filled up with zeros — a
right inverse of `ofBytes` up to that padding. Every loop of src/bitstr.rs that builds a buffer (`detach`, `from_int`,
`from_hex_str`, `BitvecBuilder`, the truncation and the bit loop of `append_bits_mut`) computes `pack` of the bits it was
asked to store; the equations below are how each of its steps (push a byte, fill up the last byte) is recognised.
-/
import XehModel.Proofs.BitsLemmas

namespace Xeh.Bits

def pack (l : List Bool) : List Nat := (chunks8 l).map fun g => beVal g <<< (8 - g.length)

@[simp] theorem pack_nil : pack [] = [] := by simp [pack]

theorem chunks8_append (a b : List Bool) (h : a.length % 8 = 0) : chunks8 (a ++ b) = chunks8 a ++ chunks8 b := by
  induction a using drop8_induction with
  | nil => rw [chunks8_nil]; rfl
  | step a ha ih =>
    have h8 : 8 ≤ a.length := by have := List.length_pos_iff.mpr ha; omega
    rw [chunks8_of_ne ha, chunks8_of_ne (by simp [ha]), List.take_append_of_le_length h8,
      List.drop_append_of_le_length h8, ih (by rw [List.length_drop]; omega), List.cons_append]

theorem pack_append (a b : List Bool) (h : a.length % 8 = 0) : pack (a ++ b) = pack a ++ pack b := by
  simp [pack, chunks8_append a b h]

theorem pack_group (g : List Bool) (h0 : g ≠ []) (h8 : g.length ≤ 8) : pack g = [beVal g <<< (8 - g.length)] := by
  simp [pack, chunks8_short h0 h8]

/-- a first group that is full, or the only one -/
theorem pack_cons_group (g R : List Bool) (h0 : g ≠ []) (h8 : g.length ≤ 8) (h : g.length = 8 ∨ R = []) :
    pack (g ++ R) = beVal g <<< (8 - g.length) :: pack R := by
  rcases h with h | rfl
  · rw [pack_append _ _ (by omega), pack_group g h0 h8]; rfl
  · rw [List.append_nil, pack_group g h0 h8, pack_nil]

theorem bitsOfNat_beVal (g : List Bool) : bitsOfNat g.length (beVal g) = g := by
  induction g with
  | nil => rfl
  | cons b r ih =>
    rw [List.length_cons, bitsOfNat, beVal_cons]
    have hlt := beVal_lt r
    have hp := Nat.two_pow_pos r.length
    congr 1
    · rw [Nat.mul_comm, Nat.mul_add_div hp, Nat.div_eq_of_lt hlt]
      cases b <;> simp
    · rw [← bitsOfNat_mod, Nat.mul_comm, Nat.mul_add_mod, Nat.mod_eq_of_lt hlt, ih]

/-- a group stored at the top of a byte -/
theorem bitsOfNat_group (g : List Bool) (h8 : g.length ≤ 8) :
    bitsOfNat 8 (beVal g <<< (8 - g.length)) = g ++ List.replicate (8 - g.length) false := by
  have := bitsOfNat_shiftLeft g.length (8 - g.length) (beVal g)
  rwa [bitsOfNat_mod, bitsOfNat_beVal, show g.length + (8 - g.length) = 8 by omega] at this

theorem group_lt (g : List Bool) (h8 : g.length ≤ 8) : beVal g <<< (8 - g.length) < 256 := by
  have := beVal_lt g
  rw [Nat.shiftLeft_eq]
  calc _ < 2 ^ g.length * 2 ^ (8 - g.length) := Nat.mul_lt_mul_of_pos_right this (Nat.two_pow_pos _)
    _ = 256 := by rw [← Nat.pow_add, show g.length + (8 - g.length) = 8 by omega]

/-- `d & !(0xff >> r)` is the group of the first `r` bits of `d` -/
theorem and_high_group (d r : Nat) (hd : d < 256) (hr : r ≤ 8) :
    d &&& (255 - 255 >>> r) = beVal ((bitsOfNat 8 d).take r) <<< (8 - r) := by
  have hl : ((bitsOfNat 8 d).take r).length = r := by rw [List.length_take, bitsOfNat_length]; exact Nat.min_eq_left hr
  have h := congrArg beVal ((bitsOfNat_and_high 8 d r hr).trans (hl ▸ bitsOfNat_group _ (by omega)).symm)
  have hg := group_lt ((bitsOfNat 8 d).take r) (by omega)
  rw [hl] at hg
  rwa [beVal_bitsOfNat, beVal_bitsOfNat, Nat.mod_eq_of_lt (Nat.lt_of_le_of_lt Nat.and_le_left hd),
    Nat.mod_eq_of_lt hg] at h

theorem chunks8_le {l g : List Bool} : g ∈ chunks8 l → g.length ≤ 8 := by
  induction l using drop8_induction with
  | nil => simp
  | step l hl ih =>
    rw [chunks8_of_ne hl, List.mem_cons]
    rintro (rfl | h)
    · rw [List.length_take]; omega
    · exact ih h

theorem pack_of_ne {l : List Bool} (h : l ≠ []) :
    pack l = beVal (l.take 8) <<< (8 - (l.take 8).length) :: pack (l.drop 8) := by
  simp [pack, chunks8_of_ne h]

theorem length_pack (l : List Bool) : (pack l).length = (l.length + 7) / 8 := by
  induction l using drop8_induction with
  | nil => rw [pack_nil]; rfl
  | step l hl ih =>
    have := List.length_pos_iff.mpr hl
    rw [pack_of_ne hl, List.length_cons, ih, List.length_drop]; omega

theorem pack_lt (l : List Bool) : ∀ b ∈ pack l, b < 256 := by
  induction l using drop8_induction with
  | nil => simp
  | step l hl ih =>
    rw [pack_of_ne hl]
    intro b hb
    rcases List.mem_cons.mp hb with rfl | hb
    · exact group_lt _ (by rw [List.length_take]; omega)
    · exact ih b hb

theorem ofBytes_pack (l : List Bool) :
    ofBytes (pack l) = l ++ List.replicate (8 * (pack l).length - l.length) false := by
  induction l using drop8_induction with
  | nil => rw [pack_nil]; rfl
  | step l hl ih =>
    rw [pack_of_ne hl, ofBytes_cons, bitsOfNat_group _ (by rw [List.length_take]; omega), ih, List.length_drop,
      List.length_take, List.length_cons]
    by_cases h8 : 8 ≤ l.length
    · rw [Nat.min_eq_left h8, Nat.sub_self, List.replicate_zero, List.append_nil, ← List.append_assoc,
        List.take_append_drop, show 8 * ((pack (l.drop 8)).length + 1) - l.length = 8 * (pack (l.drop 8)).length - (l.length - 8) by
          omega]
    · rw [List.drop_eq_nil_of_le (by omega), List.take_of_length_le (by omega), Nat.min_eq_right (by omega), pack_nil]
      simp

/-- reading back what was packed -/
theorem slice_pack (l : List Bool) (a b : Nat) (hb : b ≤ l.length) : slice (ofBytes (pack l)) a b = slice l a b := by
  unfold slice
  rw [ofBytes_pack, List.drop_append, List.take_append, List.length_drop,
    show b - a - (l.length - a) = 0 by omega, List.take_zero, List.append_nil]

theorem chunks8_ofBytes (bs : List Nat) : chunks8 (ofBytes bs) = bs.map (bitsOfNat 8) := by
  induction bs with
  | nil => exact chunks8_nil
  | cons b r ih =>
    rw [ofBytes_cons, chunks8_append _ _ (by simp), chunks8_short (by simp [bitsOfNat]) (by simp), ih]
    rfl

theorem map_bytes (bs : List Nat) (hb : ∀ b ∈ bs, b < 256) : (bs.map fun b => beVal (bitsOfNat 8 b)) = bs := by
  conv => rhs; rw [← List.map_id bs]
  exact List.map_congr_left fun b h => (beVal_bitsOfNat 8 b).trans (Nat.mod_eq_of_lt (hb b h))

theorem pack_ofBytes (bs : List Nat) (hb : ∀ b ∈ bs, b < 256) : pack (ofBytes bs) = bs := by
  rw [pack, chunks8_ofBytes, List.map_map]
  exact (List.map_congr_left fun b _ => by simp).trans (map_bytes bs hb)

theorem toBytesPad_ofBytes (bs : List Nat) (hb : ∀ b ∈ bs, b < 256) : toBytesPad (ofBytes bs) = bs := by
  rw [toBytesPad, chunks8_ofBytes, List.map_map]
  exact map_bytes bs hb

theorem iter8_ofBytes (bs : List Nat) (hb : ∀ b ∈ bs, b < 256) : iter8 (ofBytes bs) = bs.map fun b => (b, 8) := by
  rw [iter8, chunks8_ofBytes, List.map_map]
  conv => rhs; rw [← map_bytes bs hb, List.map_map]
  exact List.map_congr_left fun b _ => by simp

/-- `l` packed into a buffer of `U` bytes -/
def packTo (U : Nat) (l : List Bool) : List Nat := pack l ++ List.replicate (U - (pack l).length) 0

theorem packTo_length (l : List Bool) : packTo (pack l).length l = pack l := by
  rw [packTo, Nat.sub_self, List.replicate_zero, List.append_nil]

/-- byte `q` of the buffer when `q` whole bytes and a group `g` (possibly empty) are packed -/
theorem packTo_last (U : Nat) (A g : List Bool) (q : Nat) (hA : A.length = 8 * q) (hg : g.length ≤ 8) (hU : q < U) :
    packTo U (A ++ g) = pack A ++ beVal g <<< (8 - g.length) :: List.replicate (U - q - 1) 0 := by
  have hq : (pack A).length = q := by rw [length_pack, hA]; omega
  rw [packTo, pack_append _ _ (by rw [hA]; exact Nat.mul_mod_right 8 q), List.length_append, hq, List.append_assoc]
  by_cases h0 : g = []
  · subst h0
    rw [pack_nil, List.nil_append, List.length_nil, show U - (q + 0) = U - q - 1 + 1 by omega, List.replicate_succ]
    rfl
  · rw [pack_group _ h0 hg, List.length_singleton, Nat.sub_add_eq]
    rfl

theorem packTo_fill_last (U : Nat) (A g new : List Bool) (q : Nat) (hA : A.length = 8 * q) (hg : g.length + new.length ≤ 8) (hU : q < U) :
    (packTo U (A ++ g))[q]? = some (beVal g <<< (8 - g.length)) ∧
      packTo U (A ++ (g ++ new)) =
        (packTo U (A ++ g)).set q (beVal g <<< (8 - g.length) ||| beVal new <<< (8 - g.length - new.length)) := by
  have hq : (pack A).length = q := by rw [length_pack, hA]; omega
  rw [packTo_last U A g q hA (by omega) hU, packTo_last U A (g ++ new) q hA (by rw [List.length_append]; exact hg) hU,
    List.getElem?_append_right (Nat.le_of_eq hq), List.set_append_right _ _ (Nat.le_of_eq hq), hq, Nat.sub_self]
  refine ⟨rfl, ?_⟩
  rw [List.set_cons_zero, beVal_append, ← Nat.shiftLeft_eq, Nat.shiftLeft_add_eq_or_of_lt (beVal_lt new),
    Nat.shiftLeft_or_distrib, ← Nat.shiftLeft_add, List.length_append,
    show new.length + (8 - (g.length + new.length)) = 8 - g.length by omega, Nat.sub_sub 8]

/-- bits that still fit into byte `q` are or-ed into it -/
theorem packTo_fill (U : Nat) (acc new : List Bool) (q : Nat) (h1 : 8 * q ≤ acc.length)
    (h2 : acc.length + new.length ≤ 8 * q + 8) (hU : q < U) :
    ∃ d, (packTo U acc)[q]? = some d ∧
      packTo U (acc ++ new) = (packTo U acc).set q (d ||| beVal new <<< (8 * q + 8 - (acc.length + new.length))) := by
  have hA : (acc.take (8 * q)).length = 8 * q := by rw [List.length_take]; omega
  have hg : (acc.drop (8 * q)).length = acc.length - 8 * q := List.length_drop
  obtain ⟨e1, e2⟩ := packTo_fill_last U _ (acc.drop (8 * q)) new q hA (by omega) hU
  rw [← List.append_assoc, List.take_append_drop] at e2
  rw [List.take_append_drop] at e1
  exact ⟨_, e1, by rw [e2]; congr 3; omega⟩

theorem pack_fill (acc new : List Bool) (hr : 0 < acc.length % 8) (hn : acc.length % 8 + new.length ≤ 8) :
    ∃ d, (pack acc)[acc.length / 8]? = some d ∧
      pack (acc ++ new) =
        (pack acc).set (acc.length / 8) (d ||| beVal new <<< (8 - acc.length % 8 - new.length)) := by
  have hl := length_pack acc
  have hl' := length_pack (acc ++ new)
  rw [List.length_append] at hl'
  obtain ⟨d, h1, h2⟩ := packTo_fill (pack acc).length acc new (acc.length / 8) (by omega) (by omega) (by omega)
  rw [packTo_length] at h1 h2
  rw [show (pack acc).length = (pack (acc ++ new)).length by omega, packTo_length] at h2
  exact ⟨d, h1, by rw [h2]; congr 3; omega⟩

end Xeh.Bits
