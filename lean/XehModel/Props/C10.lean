/-
C10 — a source that fails to build has no effect on anything submitted afterwards; a line that fails at
run time is not re-executed by later lines.

Model: Model/Session.lean (the interpreter session: `build_from_source`, `build1` with its meta-block
runs, `context_open/close`, `#(` `#)` `const`, `build_unwind`, `abort_run`) on top of the flow-stack
compiler (Model/Compile.lean) and the VM (Model/VM.lean). Tied to the code by the `C10 sess` and
`C11 sess` correspondence (whole histories, state compared after every source) and by Tie B.

* `rejected_source_restores` — FULL STRENGTH for the modelled language: for every session a source can be
  submitted to, every submission mode (eval / compile), every token list and every amount of fuel: if the
  source is rejected while it is being read or compiled — at whatever token, with whatever control
  structures, definitions, builders and meta blocks open, after whatever its meta blocks executed — the
  session afterwards *is* the session before, field by field (code, debug map, dictionary with every
  replaced constant restored, heap, data/return/loop/builder stacks, pending flows, saved contexts, the
  current context with its mode, the reverse log), except for four things a rejected source legitimately
  leaves behind: the instruction meter (a budget, like time), captured output (a meta block may have
  printed), the stop flag, and the last-token marker used for error locations.
  Every later source therefore starts from the same state as if the rejected one had never been submitted.
* `rejected_compile_part` — the same for the compiler's part alone (no session needed): every failing
  `compileToks` leaves a state whose truncation to the marks is the state it started from.
* `abort_*` — the REPL's repair of a line that failed at run time: after `abort_run` nothing is left
  to execute (`run` is a no-op), frames/loops/builders above the context marks are gone, the data stack,
  the variables, the dictionary and the code are untouched. Hence the failed line is not re-executed.

* `rejected_source_then_any_history` — the follow-up, also for all inputs: the interpreter that was given the rejected
  source and the one that never saw it give the same answers (same errors) to ANY later history of sources (`eval`,
  `compile`), `run()` calls, whole REPL lines (compile, run, `abort_run` only when the run failed — what `run_line` does
  since repair 1568e86) and REPL aborts, print the same text, and stay equal in everything but the meter, the stop flag and the last-token marker
  (`later_twin`; Proofs/VMGhost.lean, an instance of Proofs/VMCong.lean: every step of the VM respects the relation;
  Proofs/SessionGhost.lean: so does every function of the session model). Hypothesis: no instruction limit (with one, what the rejected source's
  meta blocks executed stays counted — that is C14, and intended).

Not covered by a theorem (covered by correspondence + oracle only): the lexer-level part of "unread text is
never executed" (the model takes a token list, so unread text is dropped by construction; `include` is
outside the model).
-/
import XehModel.Proofs.SessionUnwind
import XehModel.Proofs.SessionRepl

namespace Xeh.C10
open Xeh Xeh.Mach Xeh.Compile Xeh.Session Xeh.Session.Sess

/-- **C10, main theorem.** A rejected source leaves the session exactly as it found it (up to the
    instruction meter, captured output, the stop flag and the last-token marker). -/
theorem rejected_source_restores (fuel : Nat) (mode : Mode) (toks : List Tok) (s s' : Sess) (e : Xerr)
    (idle : Idle s) (hmode : mode ≠ .metaEval)
    (h : s.buildSource fuel mode toks = .rejected e s') :
    s' = { s with m := { s.m with meter := s'.m.meter, out := s'.m.out, aboutToStop := s'.m.aboutToStop },
                  lastTok := s'.lastTok } := by
  obtain ⟨s2, hb2, rfl⟩ := buildSource_rejected h
  have hb := sok_build1 (ext_open idle mode hmode) hmode fuel toks
  rw [hb2] at hb
  rw [unwind_restores hb idle.dmap]

/-- whatever the rejected source's meta blocks executed, they could not reach the submitting session's
    data stack, variables or code: the failing state still contains all of it (the invariant behind the
    main theorem, stated for the state *before* unwinding) -/
theorem rejected_source_never_touched_the_old_state (fuel : Nat) (mode : Mode) (toks : List Tok) (s s2 : Sess) (e : Xerr)
    (idle : Idle s) (hmode : mode ≠ .metaEval)
    (h : (s.contextOpen mode).build1 fuel toks = .err e s2) :
    s2.m.code.take s.m.code.length = s.m.code ∧ s2.m.heap.take s.m.heap.length = s.m.heap ∧
    hidOf s2.m.ds s.m.ds.length = s.m.ds ∧ hidOf s2.m.rs s.m.rs.length = s.m.rs ∧
    hidOf s2.flows s.flows.length = s.flows ∧ hidOf s2.nested s.nested.length = s.nested := by
  have hb := sok_build1 (ext_open idle mode hmode) hmode fuel toks
  rw [h] at hb
  exact ⟨hb.code, hb.heap, hb.ds, hb.rs, hb.flows, hb.nested⟩

/-- the compiler's part alone: a failing build of any token list, from any compiler state whose pending
    flows refer to no code below the mark (in particular: none pending, the situation `build_unwind` is used
    in), leaves a state whose truncation to the marks is the state it started from -/
theorem rejected_compile_part (toks : List Tok) (idx : Nat) (s sp : CState) (e : CErr)
    (hflows : Orgs s.code.length s.flows)
    (h : compileToks toks idx s = .err e sp) : unwindC s sp = s := by
  have hg := compileToks_good toks idx s s (Pre.refl s) hflows
  rw [h] at hg
  exact unwindC_restores hg

theorem abort_not_running (s : Sess) : s.abortRun.m.isRunning = false := by
  simp [Sess.abortRun, Mach.isRunning]

/-- after `abort_run` the machine is not running, so `run` (what the next REPL line does after compiling) executes
    nothing of the failed line: with nothing new compiled it returns at once and changes nothing, whatever the fuel -/
theorem abort_then_run_is_noop (s : Sess) (fuel : Nat) : s.abortRun.runS fuel = .ok s.abortRun :=
  runS_idle _ fuel (abort_not_running s)

/-- `abort_run` drops exactly the frames, loops and builders the failed program left above the context
    marks and keeps everything else: data stack, variables, dictionary, code, context marks -/
theorem abort_keeps (s : Sess) :
    s.abortRun.m.ds = s.m.ds ∧ s.abortRun.m.heap = s.m.heap ∧ s.abortRun.m.dict = s.m.dict ∧
    s.abortRun.m.code = s.m.code ∧ s.abortRun.m.ctx.marks = s.m.ctx.marks ∧
    s.abortRun.m.rs = hidOf s.m.rs s.m.ctx.rsLen ∧ s.abortRun.m.loops = hidOf s.m.loops s.m.ctx.lsLen ∧
    s.abortRun.m.special = hidOf s.m.special s.m.ctx.ssPtr ∧ s.abortRun.flows = s.flows ∧ s.abortRun.nested = s.nested :=
  ⟨rfl, rfl, rfl, rfl, rfl, rfl, rfl, rfl, rfl, rfl⟩

/-- the code a later line compiles is appended behind the abandoned code, and only it runs: after
    `abort_run` the instruction pointer is where the next `compile` starts emitting -/
theorem abort_ip (s : Sess) : s.abortRun.m.ctx.ip = s.abortRun.m.code.length := rfl

/-- `exit` that finds no exit code — an empty stack, a text, a number outside the range — fails like any other word and
    raises NO stop request: a rejected REPL line such as `#( exit #)` does not end the session (repair: `core_word_exit`
    used to raise the request before it looked for the code). Only an `exit` that ends with `Xerr::Exit` stops anything. -/
theorem exit_without_a_code_stops_nothing (m : Mach) (h : ∀ c, (runProg wordExit m).1 ≠ .err (.exit c)) :
    (runProg wordExit m).2.aboutToStop = m.aboutToStop := by
  unfold wordExit at h ⊢
  cases hds : m.ds with
  | nil => simp [runProg, popData, hds]
  | cons c rest =>
    by_cases hlen : (c :: rest).length > m.ctx.dsLen
    · have hp : m.popData = (.ok c, { (m.logStep (.pushData c)) with ds := rest }) := by
        simp only [popData, hds]; simp only [hlen, if_true]
      simp only [runProg, hp] at h ⊢
      cases hc : c.toIsize with
      | ok code => simp [hc, Prog.ofOutcome, runProg] at h
      | err e => simp [Prog.ofOutcome, runProg, logStep]
      | panic p => simp [Prog.ofOutcome, runProg, logStep]
    · have hp : m.popData = (.err .stackUnderflow, m) := by
        simp only [popData, hds]; simp only [hlen, if_false]
      simp [runProg, hp]

/-- … and one that has its code does stop: the request is raised and the answer is `Exit code` -/
theorem exit_with_a_code_stops (m : Mach) (code : Int) (rest : List Cell) (hds : m.ds = .int code :: rest)
    (hd : (Cell.int code :: rest).length > m.ctx.dsLen) (h1 : isizeMin ≤ code) (h2 : code ≤ isizeMax) :
    (runProg wordExit m).1 = .err (.exit code) ∧ (runProg wordExit m).2.aboutToStop = true := by
  have hc : (Cell.int code).toIsize = .ok code := by
    simp only [Cell.toIsize, Cell.value]
    have : ¬ (code < isizeMin ∨ code > isizeMax) := by omega
    simp [this]
  have hp : m.popData = (.ok (.int code), { (m.logStep (.pushData (.int code))) with ds := rest }) := by
    simp only [popData, hds]; simp only [hd, if_true]
  unfold wordExit
  simp [runProg, hp, hc, Prog.ofOutcome]

/-! ### every later source behaves as if the rejected one had never been submitted

`rejected_source_restores` leaves four fields different. Nothing the interpreter does afterwards can tell: the two
interpreters — the one that saw the rejected source and the one that did not — give the same answers to any further
history of sources, `run()` calls, REPL lines and REPL aborts, print the same text, and stay equal in everything but those fields.
(No instruction limit: with a limit, what the rejected source's meta blocks executed stays counted — C14 — and a later
source may hit the limit earlier. That is the one observable difference, and it is intended.) -/

/-- what may happen to an interpreter later on -/
inductive Later where
  /-- a further source is submitted (`eval` or `compile`, or a REPL line) -/
  | source (mode : Mode) (toks : List Tok)
  /-- the REPL's `abort_run` after a line that failed at run time -/
  | abort
  /-- `run()`: the program that is paused (or was just compiled) goes on -/
  | run
  /-- a whole REPL line (src/repl.rs `run_line`): `compile`, then `run`, and `abort_run` only when the run failed
      (a line that is rejected has been forgotten already: nothing is aborted — repair 1568e86) -/
  | line (toks : List Tok)

/-- what the user sees of it -/
inductive Seen where
  | done
  | rejected (e : Xerr)
  | failed (e : Xerr)
  | panic (p : String)
  | aborted

/-- a history of later events: what was seen, and the interpreter afterwards; `none` when the model has no answer (a
    word outside it, or the fuel of the model's `run`) -/
def later (fuel : Nat) : List Later → Sess → Option (List Seen × Sess)
  | [], s => some ([], s)
  | .abort :: rest, s => (later fuel rest s.abortRun).map fun r => (.aborted :: r.1, r.2)
  | .run :: rest, s =>
    match s.runS fuel with
    | .ok s' => (later fuel rest s').map fun r => (.done :: r.1, r.2)
    | .err e s' => (later fuel rest s').map fun r => (.failed e :: r.1, r.2)
    | .panic p s' => (later fuel rest s').map fun r => (.panic p :: r.1, r.2)
    | .unsupported _ => none
    | .timeout => none
  | .line toks :: rest, s =>
    match s.buildSource fuel .compile toks with
    | .done s1 =>
      match s1.runS fuel with
      | .ok s2 => (later fuel rest s2).map fun r => (.done :: r.1, r.2)
      | .err e s2 => (later fuel rest s2.abortRun).map fun r => (.failed e :: r.1, r.2)
      | .panic p s2 => (later fuel rest s2).map fun r => (.panic p :: r.1, r.2)
      | .unsupported _ => none
      | .timeout => none
    | .rejected e s' => (later fuel rest s').map fun r => (.rejected e :: r.1, r.2)
    | .failed e s' => (later fuel rest s'.abortRun).map fun r => (.failed e :: r.1, r.2)
    | .panic p s' => (later fuel rest s').map fun r => (.panic p :: r.1, r.2)
    | .unsupported _ => none
    | .timeout => none
  | .source mode toks :: rest, s =>
    match s.buildSource fuel mode toks with
    | .done s' => (later fuel rest s').map fun r => (.done :: r.1, r.2)
    | .rejected e s' => (later fuel rest s').map fun r => (.rejected e :: r.1, r.2)
    | .failed e s' => (later fuel rest s').map fun r => (.failed e :: r.1, r.2)
    | .panic p s' => (later fuel rest s').map fun r => (.panic p :: r.1, r.2)
    | .unsupported _ => none
    | .timeout => none

/-- two interpreters that differ only in the meter, the stop flag, the last-token marker, and in what they had printed
    (`o`, `o'`) before they started printing the same text -/
def Twin (o o' : List Char) (x y : Sess) : Prop := ∃ z, GSt o x z ∧ GSt o' y z

/-- what `Twin` says, spelled out -/
theorem Twin.spec {o o' : List Char} {x y : Sess} (h : Twin o o' x y) :
    ∃ d, x.m.out = o ++ d ∧ y.m.out = o' ++ d ∧
      y = { x with m := { x.m with meter := y.m.meter, out := y.m.out, aboutToStop := y.m.aboutToStop },
                   lastTok := y.lastTok } := by
  obtain ⟨z, h1, h2⟩ := h
  obtain ⟨a1, a2⟩ := GS.spec h1
  obtain ⟨b1, b2⟩ := GS.spec h2
  refine ⟨z.m.out, a1, b1, ?_⟩
  obtain ⟨xm, _, _, _, _, _⟩ := x
  obtain ⟨ym, _, _, _, _, _⟩ := y
  obtain ⟨zm, _, _, _, _, _⟩ := z
  cases xm; cases ym; cases zm
  simp only [Sess.mk.injEq, Mach.mk.injEq] at a2 b2 ⊢
  simp_all

/-- **twins stay twins**, and are told the same: any history of sources, `run()` calls, REPL lines and aborts -/
theorem later_twin {o o' : List Char} (fuel : Nat) (evs : List Later)
    (hmodes : ∀ mode toks, Later.source mode toks ∈ evs → mode ≠ .metaEval) :
    ∀ x y : Sess, Twin o o' x y →
      match later fuel evs x, later fuel evs y with
      | some (a, x'), some (b, y') => a = b ∧ Twin o o' x' y'
      | none, none => True
      | _, _ => False := by
  induction evs with
  | nil => intro x y h; exact ⟨rfl, h⟩
  | cons ev rest ih =>
    have ih' := ih (fun mode toks hmem => hmodes mode toks (List.mem_cons_of_mem _ hmem))
    have lift : ∀ (sn : Seen) (x' y' : Sess), Twin o o' x' y' →
        match (later fuel rest x').map (fun r => (sn :: r.1, r.2)), (later fuel rest y').map (fun r => (sn :: r.1, r.2)) with
        | some (a, x''), some (b, y'') => a = b ∧ Twin o o' x'' y''
        | none, none => True
        | _, _ => False := by
      intro sn x' y' ht
      have := ih' x' y' ht
      revert this
      cases later fuel rest x' <;> cases later fuel rest y' <;> simp only [Option.map] <;> intro this
      · trivial
      · exact this
      · exact this
      · exact ⟨by rw [this.1], this.2⟩
    intro x y ⟨z, h1, h2⟩
    cases ev with
    | abort =>
      simp only [later]
      exact lift .aborted _ _ ⟨z.abortRun, gst_abortRun h1, gst_abortRun h2⟩
    | run =>
      have r := (gst_runS h1 fuel).join (gst_runS h2 fuel)
      simp only [later]
      generalize x.runS fuel = a at r
      generalize y.runS fuel = b at r
      exact r.cases (fun _ _ g => lift .done _ _ g) (fun e _ _ g => lift (.failed e) _ _ g)
        (fun p _ _ g => lift (.panic p) _ _ g) (fun _ => trivial) trivial
    | line toks =>
      have r := (gs_buildSource fuel .compile (by decide) toks x z h1).join (gs_buildSource fuel .compile (by decide) toks y z h2)
      simp only [later]
      generalize x.buildSource fuel .compile toks = a at r
      generalize y.buildSource fuel .compile toks = b at r
      refine r.cases (fun xs ys ⟨zs, r1, r2⟩ => ?_) (fun e _ _ ⟨_, g1, g2⟩ => lift (.rejected e) _ _ ⟨_, g1.toGSt, g2.toGSt⟩)
        (fun e _ _ ⟨_, g1, g2⟩ => lift (.failed e) _ _ ⟨_, gst_abortRun g1.toGSt, gst_abortRun g2.toGSt⟩)
        (fun p _ _ ⟨_, g1, g2⟩ => lift (.panic p) _ _ ⟨_, g1.toGSt, g2.toGSt⟩) (fun _ => trivial) trivial
      have q := (gst_runS r1.toGSt fuel).join (gst_runS r2.toGSt fuel)
      dsimp only
      generalize xs.runS fuel = a at q
      generalize ys.runS fuel = b at q
      exact q.cases (fun _ _ g => lift .done _ _ g)
        (fun e _ _ ⟨_, g1, g2⟩ => lift (.failed e) _ _ ⟨_, gst_abortRun g1, gst_abortRun g2⟩)
        (fun p _ _ g => lift (.panic p) _ _ g) (fun _ => trivial) trivial
    | source mode toks =>
      have hm := hmodes mode toks List.mem_cons_self
      have r := (gs_buildSource fuel mode hm toks x z h1).join (gs_buildSource fuel mode hm toks y z h2)
      simp only [later]
      generalize x.buildSource fuel mode toks = a at r
      generalize y.buildSource fuel mode toks = b at r
      exact r.cases (fun _ _ ⟨_, g1, g2⟩ => lift .done _ _ ⟨_, g1.toGSt, g2.toGSt⟩)
        (fun e _ _ ⟨_, g1, g2⟩ => lift (.rejected e) _ _ ⟨_, g1.toGSt, g2.toGSt⟩)
        (fun e _ _ ⟨_, g1, g2⟩ => lift (.failed e) _ _ ⟨_, g1.toGSt, g2.toGSt⟩)
        (fun p _ _ ⟨_, g1, g2⟩ => lift (.panic p) _ _ ⟨_, g1.toGSt, g2.toGSt⟩) (fun _ => trivial) trivial

/-- **C10, the follow-up.** Take the interpreter that was given a rejected source and the interpreter that never saw it.
    Whatever is submitted afterwards — any number of sources in eval or compile mode, `run()` calls and whole REPL lines,
    each of which may build, be rejected in turn, fail at run time, with REPL aborts in between — the two give the same answer to every one of
    them (the same errors), print the same text `d`, and end up equal in everything but the meter, the stop flag and
    the last-token marker. -/
theorem rejected_source_then_any_history (fuel : Nat) (mode : Mode) (toks : List Tok) (s s' : Sess) (e : Xerr)
    (idle : Idle s) (hmode : mode ≠ .metaEval) (hlim : s.m.insnLimit = none)
    (h : s.buildSource fuel mode toks = .rejected e s')
    (fuel2 : Nat) (evs : List Later) (hmodes : ∀ mode toks, Later.source mode toks ∈ evs → mode ≠ .metaEval) :
    match later fuel2 evs s, later fuel2 evs s' with
    | some (a, r), some (b, r') =>
      a = b ∧ ∃ d, r.m.out = s.m.out ++ d ∧ r'.m.out = s'.m.out ++ d ∧
        r' = { r with m := { r.m with meter := r'.m.meter, out := r'.m.out, aboutToStop := r'.m.aboutToStop },
                      lastTok := r'.lastTok }
    | none, none => True
    | _, _ => False := by
  have hr := rejected_source_restores fuel mode toks s s' e idle hmode h
  let z : Sess := { s with m := { s.m with out := [] } }
  have t0 : Twin s.m.out s'.m.out s s' := by
    refine ⟨z, ?_, ?_⟩
    · exact GS.ofSpec (by exact hlim) (by simp [z]) (by simp [z])
    · refine GS.ofSpec (by exact hlim) (by simp [z]) ?_
      rw [hr]
  have := later_twin fuel2 evs hmodes s s' t0
  revert this
  cases later fuel2 evs s <;> cases later fuel2 evs s' <;> intro this
  · trivial
  · exact this
  · exact this
  · exact ⟨this.1, this.2.spec⟩

/-! ### the hypotheses are satisfiable, the theorems are not vacuous -/

/-- the empty session is idle -/
example : Idle ({} : Sess) := ⟨⟨Nat.le_refl _, Nat.le_refl _, Nat.le_refl _, Nat.le_refl _⟩, Nat.le_refl _, rfl⟩

/-- a source is rejected half-way (a literal has been compiled, an unknown word follows, more text trails):
    the conclusion of the main theorem is about something that happens -/
example : ∃ e s', ({} : Sess).buildSource 5 .eval [.lit (.int 1), .word "foo", .lit (.int 2)] = .rejected e s' := by
  simp [Sess.buildSource, Sess.build1, tokens, Sess.visible, Sess.visLen, CState.topFun, Sess.ofC, buildWord, Sess.toC, cerr, andRun,
    Sess.metaRun, Sess.contextOpen, Sess.emit]

/-- the follow-up theorem is about histories that have answers: a later source is built, a second one is
    rejected in turn, and the REPL aborts -/
example : ((later 5 [.source .compile [.lit (.int 1)], .source .compile [.word "foo"], .abort] ({} : Sess)).map (·.1)).isSome = true := by
  simp [later, Sess.buildSource, Sess.build1, tokens, Sess.visible, Sess.visLen, CState.topFun, Sess.ofC, buildWord, Sess.toC, cerr,
    andRun, Sess.metaRun, Sess.contextOpen, Sess.emit, Sess.contextClose, Sess.hasPendingFlow, Sess.fromC, forgetBuildLog]

/-- … and about REPL lines: a line is built, the next one is rejected (and, being rejected, aborts nothing) -/
example : ((later 5 [.source .compile [.lit (.int 1)], .line [.word "foo"], .abort] ({} : Sess)).map (·.1)).isSome = true := by
  simp [later, Sess.buildSource, Sess.build1, tokens, Sess.visible, Sess.visLen, CState.topFun, Sess.ofC, buildWord, Sess.toC, cerr,
    andRun, Sess.metaRun, Sess.contextOpen, Sess.emit, Sess.contextClose, Sess.hasPendingFlow, Sess.fromC, forgetBuildLog]

end Xeh.C10
