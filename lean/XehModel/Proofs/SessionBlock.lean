/-
A meta block opened in a context that is not itself a meta block, seen as a whole — from its
`#(` to the `#)` that closes it. Inside, the session stays an extension of the session at the `#(`
(Proofs/SessionUnwind.lean with the block's context as the base); when the block closes, context, saved
contexts, pending flows and data stack are those of the `#(`, the code has grown by one literal per result, heap and the
other stacks of the `#(` are still there underneath, and the old part of the dictionary is what it was just before the `#)`.
-/
import XehModel.Proofs.SessionUnwind

namespace Xeh.Session
open Xeh Xeh.Mach Xeh.Compile Sess

theorem ext_open_block {s0 : Sess} (i : Idle s0) (h0 : s0.m.ctx.mode ≠ .metaEval) :
    Ext .metaEval s0 (s0.contextOpen .metaEval) := ext_open_any i .metaEval (fun _ => h0)

theorem block_close_full {s0 s t : Sess} (fuel : Nat) (h0 : s0.m.ctx.mode ≠ .metaEval)
    (h : Ext .metaEval s0 s) (hbase : s.nested.length = s0.nested.length + 1) (hnp : s.hasPendingFlow = false)
    (hc : s.contextClose fuel = .ok t) :
    (t.m.ctx = s0.m.ctx ∧ t.nested = s0.nested ∧ t.flows = s0.flows ∧ t.m.ds = s0.m.ds ∧
    t.m.heap.take s0.m.heap.length = s0.m.heap ∧ hidOf t.m.rs s0.m.rs.length = s0.m.rs ∧
    hidOf t.m.loops s0.m.loops.length = s0.m.loops ∧ hidOf t.m.special s0.m.special.length = s0.m.special ∧
    (∃ vs : List Cell, t.m.code = s0.m.code ++ vs.map Mach.loadValueOp) ∧
    hidOf t.m.dict s0.m.dict.length = hidOf s.m.dict s0.m.dict.length) ∧ Ext0 s0 t := by
  obtain ⟨hm, hnest⟩ := h.chain.base_of_len hbase
  have hch := h.chain
  rw [hnest] at hch
  have bmk : BaseMarks s0 s.m.ctx := by
    cases hch with
    | base _ _ _ b => exact b
    | inner c _ rest hc' _ _ _ => have := hc'.nested.2; simp at this
  have hflows : s.flows = s0.flows := by
    obtain ⟨nw, hf, _⟩ := h.flows
    have : ¬ (s.flows.length > s.m.ctx.fsLen) := by simpa [Sess.hasPendingFlow] using hnp
    rw [bmk.fs, hf] at this
    have hz : nw.length = 0 := by simp only [List.length_append] at this; omega
    rw [hf, List.eq_nil_of_length_eq_zero hz]; rfl
  rw [contextClose_meta s s0.m.ctx s0.nested fuel hnest hm] at hc
  cases hr : Sess.runS fuel { s with nested := s0.nested } with
  | ok s1 =>
    rw [hr] at hc
    cases hc
    obtain ⟨m', hr', rfl⟩ := runS_ok hr
    have sl : Sealed s.m m' := run_sealed nativeProg fuel s.m (.ok (), m') h.wf hr'
    have hmarks := sl.below.1
    obtain ⟨e1, e2, _, _, _, _, e7, _, e9⟩ := marks_fields hmarks
    have e4 : Ext0 s0 (({ s with nested := s0.nested, m := m' } : Sess).closed s0.m.ctx) :=
      ext0_closed (s := { s with m := m' }) (ext0_sealed h.ext0 h.chain.ok hm sl) (h.chain.ok.ofMarks hmarks)
        (sl.mode.trans hm) sl.wf h.dmapLen _ _ (by rw [hnest, hidOf_cons _ _ _ (Nat.le_refl _)])
    obtain ⟨k, _, hk, hds, hcode, _⟩ := closed_ds ({ s with nested := s0.nested, m := m' } : Sess) s0.m.ctx
    have hk := hk h0
    simp only [Sess.excess] at hk hds hcode
    have hdsL : m'.ctx.dsLen = s0.m.ds.length := e1.trans (bmk.ds (by rw [hm]; exact fun e => h0 e.symm))
    refine ⟨⟨rfl, rfl, hflows, ?_, e4.heap, e4.rs, e4.loops, e4.special, ⟨m'.ds.take k, ?_⟩, ?_⟩, e4⟩
    · -- the stack is drained down to `max dsOpen dsLen`, both `s0`'s height; what lies below is `s0`'s stack
      refine eq_of_hidOf_le e4.ds ?_
      rw [hds, List.length_drop, hk, e9.trans bmk.dsOpen, hdsL]; omega
    · rw [hcode, e2.trans bmk.cs, sl.codeMeta hm]
      exact congrArg (· ++ _) h.ext0.code
    · show hidOf (purge m'.dict m'.ctx.diLen) _ = _
      rw [(purge_old m'.dict m'.ctx.diLen s0.m.dict.length (Nat.le_of_eq (e7.trans bmk.di).symm)
        (by rw [sl.dict]; exact h.ext0.dictLen)).1, sl.dict]
  | err e s1 => rw [hr] at hc; cases hc
  | panic p s1 => rw [hr] at hc; cases hc
  | unsupported u => rw [hr] at hc; cases hc
  | timeout => rw [hr] at hc; cases hc

theorem block_close {s0 s t : Sess} (fuel : Nat) (h0 : s0.m.ctx.mode ≠ .metaEval)
    (h : Ext .metaEval s0 s) (hbase : s.nested.length = s0.nested.length + 1) (hnp : s.hasPendingFlow = false)
    (hc : s.contextClose fuel = .ok t) :
    t.m.ctx = s0.m.ctx ∧ t.nested = s0.nested ∧ t.flows = s0.flows ∧ t.m.ds = s0.m.ds ∧
    t.m.heap.take s0.m.heap.length = s0.m.heap ∧ hidOf t.m.rs s0.m.rs.length = s0.m.rs ∧
    hidOf t.m.loops s0.m.loops.length = s0.m.loops ∧ hidOf t.m.special s0.m.special.length = s0.m.special ∧
    (∃ vs : List Cell, t.m.code = s0.m.code ++ vs.map Mach.loadValueOp) ∧
    hidOf t.m.dict s0.m.dict.length = hidOf s.m.dict s0.m.dict.length :=
  (block_close_full fuel h0 h hbase hnp hc).1

end Xeh.Session
