/-
Forward simulation between the structural evaluator `evalS` (no instruction pointer, no bytecode) and the VM
running the code `compileS` emits. The two machines agree after `normX` (everything but reverse log, meter and ip); the VM
runs without an instruction limit (with one it may stop earlier: C14's subject).

Two halves that do not meet. `laid_of`: what `compileS` emits is laid out as the statement (`Laid`: where each opcode stands
and, in absolute addresses, where it leads): sizes, relative distances and the wrap of `calcJump`, and no machine.
`sim_laid`: on any code so laid out the VM does what `evalS` says, and no arithmetic. There `one_step` sets one
instruction of the VM against what the body of its opcode (`execBody`) does on the evaluator's machine;
`Proofs/StructEval.lean` says what that is in the evaluator's vocabulary, construct by construct. `sim_all` states the two
together in the compiler's terms, contexts as distances from the end of the fragment (`SimT`).
-/
import XehModel.Proofs.StructLoops
import XehModel.Proofs.FlowSim
import XehModel.Proofs.VMSim
import XehModel.Proofs.VMSeal
import XehModel.Proofs.VMSteps

namespace Xeh.Structured
open Xeh Xeh.Mach Xeh.Mach.NormX

def Rel (a b : Mach) : Prop := normX a = normX b

theorem Rel.refl (a : Mach) : Rel a a := rfl
theorem Rel.symm {a b : Mach} (h : Rel a b) : Rel b a := Eq.symm h
theorem Rel.trans {a b c : Mach} (h1 : Rel a b) (h2 : Rel b c) : Rel a c := Eq.trans h1 h2

theorem rel_goto (m : Mach) (d : Dest) : Rel (m.goto d) m := by
  cases d
  · exact normX_setIp m _
  · exact normX_setIp m _

theorem Rel.insnLimit {a b : Mach} (h : Rel a b) : a.insnLimit = b.insnLimit :=
  show (normX a).insnLimit = (normX b).insnLimit from congrArg _ h
theorem Rel.code {a b : Mach} (h : Rel a b) : a.code = b.code :=
  show (normX a).code = (normX b).code from congrArg _ h

def OpAt (code : List Op) (dmap : List Nat) (pc : Nat) (x : Op × Nat) : Prop :=
  code[pc]? = some x.1 ∧ dmap[pc]? = some x.2

def CodeAt (code : List Op) (dmap : List Nat) (pc : Nat) (frag : List (Op × Nat)) : Prop :=
  ∀ i, (h : i < frag.length) → code[pc + i]? = some (frag[i].1) ∧ dmap[pc + i]? = some (frag[i].2)

section CodeAt
variable {code : List Op} {dmap : List Nat} {pc : Nat} {x : Op × Nat} {a b : List (Op × Nat)}

theorem CodeAt.left (h : CodeAt code dmap pc (a ++ b)) : CodeAt code dmap pc a := by
  intro i hi
  have := h i (by simp; omega)
  simpa [List.getElem_append_left hi] using this

theorem CodeAt.right (h : CodeAt code dmap pc (a ++ b)) : CodeAt code dmap (pc + a.length) b := by
  intro i hi
  have := h (a.length + i) (by simp; omega)
  rw [List.getElem_append_right (by omega)] at this
  simpa [Nat.add_assoc] using this

theorem CodeAt.head (h : CodeAt code dmap pc (x :: b)) : OpAt code dmap pc x := by
  have := h 0 (by simp)
  simpa [OpAt] using this

theorem CodeAt.tail (h : CodeAt code dmap pc (x :: b)) : CodeAt code dmap (pc + 1) b := by
  have := CodeAt.right (a := [x]) (b := b) (by simpa using h)
  simpa using this

theorem CodeAt.split (h : CodeAt code dmap pc (a ++ x :: b)) :
    CodeAt code dmap pc a ∧ OpAt code dmap (pc + a.length) x ∧ CodeAt code dmap (pc + a.length + 1) b :=
  ⟨h.left, h.right.head, h.right.tail⟩

end CodeAt

@[simp] theorem compileS_length (st : Stmt) : ∀ (bk : BK) (ce : Option Nat), (compileS st bk ce).length = size st :=
  compileS_len st

local macro "sim_bind " f:term ", " ea:term ", " eb:term " with " ma:ident mb:ident h2:ident : tactic => `(tactic|
  (have hs := $f
   revert hs
   generalize $ea = ra
   generalize $eb = rb
   obtain ⟨oa, $ma:ident⟩ := ra
   obtain ⟨ob, $mb:ident⟩ := rb
   rintro ⟨h1, $h2:ident⟩
   simp only at h1 $h2:ident
   subst h1
   cases oa <;> try exact ⟨rfl, $h2⟩))

/-- what holds of the VM all along -/
structure VOK (code : List Op) (m : Mach) : Prop where
  wf : WF m
  lim : m.insnLimit = none
  code : m.code = code

theorem vok_step (np : String → Option Prog) {code : List Op} {m : Mach} (v : VOK code m) (op : Op)
    (hop : code[m.ctx.ip]? = some op) (hnr : ∀ n, op ≠ .resolve n) :
    step np m = exec np { m with meter := m.meter + 1 } m.ctx.ip op ∧ VOK code (step np m).2 := by
  have he : step np m = exec np { m with meter := m.meter + 1 } m.ctx.ip op := by
    unfold step meterIncrease
    simp only [v.lim, v.code, hop]
  have hs := step_sealed np m v.wf
  refine ⟨he, hs.wf, hs.limits.1.trans v.lim, ?_⟩
  rw [he, (exec_fr np _ _ _).code]
  exact v.code

/-- the VM `mv` is at `pc`, agrees with the evaluator's machine `ms` up to `normX`, and `VOK` holds -/
def Stands (code : List Op) (mv : Mach) (pc : Nat) (ms : Mach) : Prop := mv.ctx.ip = pc ∧ Rel mv ms ∧ VOK code mv

theorem Stands.at {code : List Op} {mv ms : Mach} {pc pc' : Nat} (h : Stands code mv pc ms) (e : pc = pc') :
    Stands code mv pc' ms := e ▸ h

/-- after some successful steps the VM stands at `ip'` against `ms'` (the last three conjuncts are a `Stands`) -/
def Catch (np : String → Option Prog) (code : List Op) (mv : Mach) (ip' : Nat) (ms' : Mach) : Prop :=
  ∃ n mv', C02.stepN np n mv = some mv' ∧ mv'.ctx.ip = ip' ∧ Rel mv' ms' ∧ VOK code mv'

/-- after some successful steps the next step answers `o ≠ ok`, at an instruction whose debug-map entry is `tok`, and leaves a
    machine that agrees with `ms'` -/
def Fails (np : String → Option Prog) (dmap : List Nat) (mv : Mach) (o : Outcome Unit) (tok : Nat) (ms' : Mach) : Prop :=
  ∃ n mv' mv'', C02.stepN np n mv = some mv' ∧ step np mv' = (o, mv'') ∧ o ≠ .ok () ∧ Rel mv'' ms' ∧
    dmap[mv'.ctx.ip]? = some tok

def _root_.Xeh.Mach.Dest.addr (pc : Nat) : Dest → Nat
  | .next => pc + 1
  | .to n => n

/-- `Catch` (at the address the opcode at `pc` moves to) or `Fails` (at token `t`), according to what `execBody` answered on
    the evaluator's machine -/
def Does (np : String → Option Prog) (code : List Op) (dmap : List Nat) (mv : Mach) (pc t : Nat) : R Dest → Prop
  | (.ok d, ms1) => Catch np code mv (d.addr pc) ms1
  | (.err e, ms1) => Fails np dmap mv (.err e) t ms1
  | (.panic p, ms1) => Fails np dmap mv (.panic p) t ms1

/-- `RelativeJump::calculate` on a distance that stays inside the address space -/
theorem calcJump_eq {ip : Nat} {rel : Int} {tgt : Nat} (h : (ip : Int) + rel = tgt) (hb : tgt < 2^64) :
    calcJump ip rel = tgt := by
  unfold calcJump
  rw [h, Int.emod_eq_of_lt (by omega) (by omega)]
  rfl

section steps
variable {np : String → Option Prog} {code : List Op} {dmap : List Nat} {mv ms : Mach} {pc : Nat}

theorem Catch.refl (h : Stands code mv pc ms) : Catch np code mv pc ms := ⟨0, mv, rfl, h⟩

theorem Catch.pre {n ip : Nat} {mv1 ms1 : Mach} (s1 : C02.stepN np n mv = some mv1) (h : Catch np code mv1 ip ms1) :
    Catch np code mv ip ms1 := by
  obtain ⟨n2, mv2, s2, st2⟩ := h
  exact ⟨n + n2, mv2, stepN_add np n n2 mv mv1 mv2 s1 s2, st2⟩

theorem Fails.pre {n : Nat} {mv1 ms1 : Mach} {o : Outcome Unit} {tok : Nat} (s1 : C02.stepN np n mv = some mv1)
    (h : Fails np dmap mv1 o tok ms1) : Fails np dmap mv o tok ms1 := by
  obtain ⟨n2, mv2, mv3, s2, rest⟩ := h
  exact ⟨n + n2, mv2, mv3, stepN_add np n n2 mv mv1 mv2 s1 s2, rest⟩

theorem Catch.trans {ip1 ip2 : Nat} {ms1 ms2 : Mach} (h1 : Catch np code mv ip1 ms1)
    (h2 : ∀ mv1, Stands code mv1 ip1 ms1 → Catch np code mv1 ip2 ms2) : Catch np code mv ip2 ms2 :=
  let ⟨_, mv1, s1, st1⟩ := h1; (h2 mv1 st1).pre s1

variable (np) in
theorem one_step {x : Op × Nat} (h : Stands code mv pc ms) (hx : OpAt code dmap pc x) (hnr : ∀ n, x.1 ≠ .resolve n) :
    Does np code dmap mv pc x.2 (execBody np ms pc x.1) := by
  obtain ⟨rfl, hr, v⟩ := h
  obtain ⟨he, v2⟩ := vok_step np v x.1 hx.1 hnr
  rw [exec_eq] at he
  have hs := NormX.cong.execBody (a := { mv with meter := mv.meter + 1 }) (b := ms) hr np mv.ctx.ip x.1
  -- only `.ctx` is wanted of the walk: an opcode's effects leave the context alone, so after `goto .next` the ip is `pc + 1`
  have hc := (revWalk.execBody np { mv with meter := mv.meter + 1 } mv.ctx.ip x.1 ⟨v.wf.ds, v.wf.rs, v.wf.ls, v.wf.ss⟩).elim
    fun _ r => r.ctx
  generalize execBody np { mv with meter := mv.meter + 1 } mv.ctx.ip x.1 = ra at hs hc he
  generalize execBody np ms mv.ctx.ip x.1 = rb at hs ⊢
  obtain ⟨oa, ma⟩ := ra
  obtain ⟨ob, mb⟩ := rb
  obtain ⟨h1, h2⟩ := hs
  simp only at h1 h2 hc
  subst h1
  cases oa with
  | ok d =>
    rw [bindR_ok] at he
    rw [he] at v2
    refine ⟨1, ma.goto d, by simp [C02.stepN, he], ?_, (rel_goto ma d).trans h2, v2⟩
    cases d with
    | next => simp [goto, nextIp, setIp, logStep, hc, Dest.addr]
    | to n => rfl
  | err e => exact ⟨0, mv, _, rfl, he, by simp, h2, hx.2⟩
  | panic p => exact ⟨0, mv, _, rfl, he, by simp, h2, hx.2⟩


/-- the instruction at `pc`, of token `t`, is `mk rel` for a distance `rel` that leads to `tgt` -/
def JAt (code : List Op) (dmap : List Nat) (mk : Int → Op) (pc t tgt : Nat) : Prop :=
  ∃ rel, OpAt code dmap pc (mk rel, t) ∧ calcJump pc rel = tgt

theorem OpAt.lt {x : Op × Nat} (h : OpAt code dmap pc x) : pc < code.length := (List.getElem?_eq_some_iff.mp h.1).1
theorem OpAt.le {x : Op × Nat} (h : OpAt code dmap pc x) : pc ≤ code.length := Nat.le_of_lt h.lt

section
variable {mk : Int → Op} {t n : Nat} (hlen : code.length < 2^62)
include hlen

/-- a jump over the `n` opcodes that follow it -/
theorem JAt.skip (hx : OpAt code dmap pc (mk (n + 1), t)) (hb : pc + 1 + n ≤ code.length) : JAt code dmap mk pc t (pc + 1 + n) :=
  ⟨_, hx, calcJump_eq (by omega) (by omega)⟩

/-- a jump over the `n` opcodes that follow it and the one that closes them -/
theorem JAt.skip1 {y : Op × Nat} (hx : OpAt code dmap pc (mk (n + 2), t)) (hy : OpAt code dmap (pc + 1 + n) y) :
    JAt code dmap mk pc t (pc + 1 + n + 1) :=
  ⟨_, hx, calcJump_eq (by omega) (by have := hy.lt; omega)⟩

/-- a compiled `break`: `k` opcodes past the end `pc + 1` of its own fragment, in the terms of `BK.shift` and `BKOk` -/
theorem JAt.brk {k : Nat} (hx : OpAt code dmap pc (mk (k + 1), t)) (hb : 0 + (k + (pc + 1)) ≤ code.length) :
    JAt code dmap mk pc t (k + (pc + 1)) :=
  Nat.add_comm k (pc + 1) ▸ JAt.skip hlen hx (by omega)

/-- a jump back over the `n` opcodes that precede it -/
theorem JAt.back {tgt : Nat} (hx : OpAt code dmap pc (mk (-(n : Int)), t)) (hn : tgt + n = pc) : JAt code dmap mk pc t tgt :=
  ⟨_, hx, calcJump_eq (by omega) (by have := hx.lt; omega)⟩

end

variable (np) in
theorem JAt.jump {t tgt : Nat} (hj : JAt code dmap .jump pc t tgt) (h : Stands code mv pc ms) : Catch np code mv tgt ms := by
  obtain ⟨rel, hx, hj⟩ := hj
  exact hj ▸ one_step np h hx nofun

end steps

/-- the instruction at `ipb` is the compiled `break` of token `t`: a `Jump` (a `Break`, inside a counted loop) to `k` opcodes
    past `endpc` -/
def BreakAt (code : List Op) (dmap : List Nat) (ipb : Nat) (bk : BK) (endpc : Nat) (t : Nat) : Prop :=
  dmap[ipb]? = some t ∧
  match bk with
  | .jump k => ∃ rel, code[ipb]? = some (.jump rel) ∧ calcJump ipb rel = endpc + k
  | .loop k => ∃ rel, code[ipb]? = some (.breakOp rel) ∧ calcJump ipb rel = endpc + k
  | .none => False

/-- `E`: the end of the fragment; `cend`: where a finished `of … endof` arm continues -/
def SimT (np : String → Option Prog) (code : List Op) (dmap : List Nat) (mv : Mach) (E : Nat) (bk : BK) (cend : Nat) : Res → Prop
  | .ok ms' => Catch np code mv E ms'
  | .err e tok ms' => Fails np dmap mv (.err e) tok ms'
  | .panic s tok ms' => Fails np dmap mv (.panic s) tok ms'
  | .brk t ms' => ∃ ipb, Catch np code mv ipb ms' ∧ BreakAt code dmap ipb bk E t
  | .exitCase ms' => Catch np code mv cend ms'
  | .timeout => True

theorem simT_ofR {np : String → Option Prog} {code : List Op} {dmap : List Nat} {mv : Mach} {α : Type}
    {E : Nat} {bk : BK} {cend : Nat} (r : R α) (tok : Nat) (k : α → Mach → Res)
    (hok : ∀ a ms1, r = (.ok a, ms1) → SimT np code dmap mv E bk cend (k a ms1))
    (herr : ∀ e ms1, r = (.err e, ms1) → Fails np dmap mv (.err e) tok ms1)
    (hpanic : ∀ p ms1, r = (.panic p, ms1) → Fails np dmap mv (.panic p) tok ms1) :
    SimT np code dmap mv E bk cend (ofR r tok k) :=
  ofR_cases (P := SimT np code dmap mv E bk cend) r tok k hok herr hpanic

/-- `SimT` in absolute terms: the break context `B` is measured from address 0 (a distance from there is an address, so `BK` and
    `BreakAt … 0` serve as they are), so that a statement hands it to its parts unchanged where the compiler shifts it by
    their sizes; `C` is where a finished arm continues, if a `case` is open. A travelling `break` or a finished arm with nowhere
    to go is `False`: which results a well-formed statement can have comes out of the simulation by itself -/
def SimA (np : String → Option Prog) (code : List Op) (dmap : List Nat) (mv : Mach) (E : Nat) (B : BK) (C : Option Nat) :
    Res → Prop
  | .ok ms' => Catch np code mv E ms'
  | .err e tok ms' => Fails np dmap mv (.err e) tok ms'
  | .panic s tok ms' => Fails np dmap mv (.panic s) tok ms'
  | .brk t ms' => ∃ ipb, Catch np code mv ipb ms' ∧ BreakAt code dmap ipb B 0 t
  | .exitCase ms' => ∃ c, C = some c ∧ Catch np code mv c ms'
  | .timeout => True

section SimA
variable {np : String → Option Prog} {code : List Op} {dmap : List Nat} {mv : Mach} {E : Nat} {B : BK} {C : Option Nat}

/-- a break context measured from address 0, in the compiler's terms: from the end `E` of the fragment -/
theorem BreakAt.rel {bk : BK} {ipb t : Nat} (h : BreakAt code dmap ipb (bk.shift E) 0 t) : BreakAt code dmap ipb bk E t := by
  obtain ⟨h1, h2⟩ := h
  refine ⟨h1, ?_⟩
  cases bk with
  | none => exact h2
  | jump k => obtain ⟨rel, a, b⟩ := h2; exact ⟨rel, a, by rw [b]; omega⟩
  | loop k => obtain ⟨rel, a, b⟩ := h2; exact ⟨rel, a, by rw [b]; omega⟩

theorem breakAt_jump {pc t k : Nat} : BreakAt code dmap pc (.jump k) 0 t ↔ JAt code dmap .jump pc t k :=
  ⟨fun ⟨hd, rel, hop, hj⟩ => ⟨rel, ⟨hop, hd⟩, hj.trans (Nat.zero_add k)⟩,
   fun ⟨rel, hx, hj⟩ => ⟨hx.2, rel, hx.1, hj.trans (Nat.zero_add k).symm⟩⟩

theorem breakAt_loop {pc t k : Nat} : BreakAt code dmap pc (.loop k) 0 t ↔ JAt code dmap .breakOp pc t k :=
  ⟨fun ⟨hd, rel, hop, hj⟩ => ⟨rel, ⟨hop, hd⟩, hj.trans (Nat.zero_add k)⟩,
   fun ⟨rel, hx, hj⟩ => ⟨hx.2, rel, hx.1, hj.trans (Nat.zero_add k).symm⟩⟩

theorem SimA.pre {n : Nat} {mv1 : Mach} {r : Res} (s1 : C02.stepN np n mv = some mv1) (h : SimA np code dmap mv1 E B C r) :
    SimA np code dmap mv E B C r := by
  cases r with
  | ok m => exact Catch.pre s1 h
  | err e tok m => exact Fails.pre s1 h
  | panic p tok m => exact Fails.pre s1 h
  | brk t m => obtain ⟨ipb, c, b⟩ := h; exact ⟨ipb, c.pre s1, b⟩
  | exitCase m => obtain ⟨c, e, h⟩ := h; exact ⟨c, e, h.pre s1⟩
  | timeout => trivial

theorem SimA.after {ip1 : Nat} {ms1 : Mach} (r : Res) (h1 : Catch np code mv ip1 ms1)
    (h2 : ∀ mv1, Stands code mv1 ip1 ms1 → SimA np code dmap mv1 E B C r) : SimA np code dmap mv E B C r :=
  let ⟨_, mv1, s1, st1⟩ := h1; (h2 mv1 st1).pre s1

/-- evaluator and opcode both run `x` first: it is enough to compare what they go on with (`k`, `K`) -/
theorem Does.ofR {α : Type} {x : R α} {K : α → Mach → R Dest} {k : α → Mach → Res} {pc t : Nat}
    (h : Does np code dmap mv pc t (bindR x K))
    (hk : ∀ a ms1, x = (.ok a, ms1) → Does np code dmap mv pc t (K a ms1) → SimA np code dmap mv E B C (k a ms1)) :
    SimA np code dmap mv E B C (ofR x t k) :=
  ofR_cases (P := SimA np code dmap mv E B C) x t k (fun a ms1 e => hk a ms1 e (by rw [e] at h; exact h))
    (fun e ms1 ex => by rw [ex] at h; exact h) (fun p ms1 ex => by rw [ex] at h; exact h)

theorem SimA.noExit {r : Res} (h : SimA np code dmap mv E B none r) : SimA np code dmap mv E B C r := by
  cases r with
  | exitCase m => obtain ⟨_, e, _⟩ := h; cases e
  | _ => exact h

theorem SimA.next {E1 : Nat} {B1 : BK} {C1 : Option Nat} {r : Res} {ok : Mach → Res} {brk : Nat → Mach → Res} {exit : Mach → Res}
    (h : SimA np code dmap mv E1 B1 C1 r)
    (hok : ∀ ms1, r = .ok ms1 → ∀ mv1, Stands code mv1 E1 ms1 → SimA np code dmap mv1 E B C (ok ms1))
    (hbrk : ∀ t ms1 ipb, Catch np code mv ipb ms1 → BreakAt code dmap ipb B1 0 t → SimA np code dmap mv E B C (brk t ms1))
    (hexit : ∀ ms1 c, C1 = some c → Catch np code mv c ms1 → SimA np code dmap mv E B C (exit ms1)) :
    SimA np code dmap mv E B C (r.next ok brk exit) := by
  cases r with
  | ok m => exact SimA.after _ h (hok m rfl)
  | brk t m => obtain ⟨ipb, c, b⟩ := h; exact hbrk t m ipb c b
  | exitCase m => obtain ⟨c, e, h⟩ := h; exact hexit m c e h
  | _ => exact h

/-- a finished part whose normal end the VM leaves by a jump (`else`, `endof`): the end changes, the result does not -/
theorem SimA.then {E1 : Nat} {r : Res} (h : SimA np code dmap mv E1 B C r)
    (hok : ∀ ms1 mv1, Stands code mv1 E1 ms1 → Catch np code mv1 E ms1) : SimA np code dmap mv E B C r := by
  cases r with
  | ok m => exact Catch.trans h (hok m)
  | _ => exact h

theorem SimA.cond {ms : Mach} {pc t tgt : Nat} {k : Bool → Mach → Res}
    (h : Stands code mv pc ms) (hj : JAt code dmap .jumpIfNot pc t tgt)
    (htrue : ∀ ms1 mv1, Stands code mv1 (pc + 1) ms1 → SimA np code dmap mv1 E B C (k true ms1))
    (hfalse : ∀ ms1 mv1, Stands code mv1 tgt ms1 → SimA np code dmap mv1 E B C (k false ms1)) :
    SimA np code dmap mv E B C (ofR (popCond ms) t k) := by
  obtain ⟨rel, hx, hj⟩ := hj
  have h := one_step np h hx nofun
  rw [execBody_jumpIfNot] at h
  refine h.ofR fun b ms1 _ h1 => ?_
  cases b
  · exact SimA.after _ h1 fun mv1 s1 => hfalse ms1 mv1 (s1.at hj)
  · exact SimA.after _ h1 (htrue ms1)

/-- back to the terms of the compiler: break context and case end as distances from the end of the fragment -/
theorem SimA.toSimT {bk : BK} {ce : Option Nat} {r : Res} (h : SimA np code dmap mv E (bk.shift E) (ce.map (E + ·)) r) :
    SimT np code dmap mv E bk (E + ce.getD 0) r := by
  cases r with
  | brk t m => obtain ⟨ipb, c, b⟩ := h; exact ⟨ipb, c, b.rel⟩
  | exitCase m =>
    obtain ⟨c, e, h⟩ := h
    cases ce with
    | none => cases e
    | some n => cases e; exact h
  | _ => exact h

/-- nothing can travel out: any break context and case end will do -/
theorem SimA.closed {bk : BK} {cend : Nat} {r : Res} (h : SimA np code dmap mv E .none none r) : SimT np code dmap mv E bk cend r := by
  cases r with
  | brk t m => obtain ⟨_, _, b⟩ := h; exact b.2.elim
  | exitCase m => obtain ⟨_, e, _⟩ := h; cases e
  | _ => exact h

end SimA

def BKOk (code : List Op) (bk : BK) (E : Nat) : Prop :=
  match bk with
  | .jump k => E + k ≤ code.length
  | .loop k => E + k ≤ code.length
  | .none => True

theorem BKOk.abs {code : List Op} {bk : BK} {E : Nat} (h : BKOk code bk E) : BKOk code (bk.shift E) 0 := by
  cases bk <;> simp only [BKOk, BK.shift] at h ⊢ <;> omega

/-- a loop whose exit lies within the code gives its body a break context that does -/
theorem BKOk.base {code : List Op} {k : Nat} (h : k ≤ code.length) : BKOk code (.jump k) 0 ∧ BKOk code (.loop k) 0 :=
  ⟨show 0 + k ≤ _ by rwa [Nat.zero_add], show 0 + k ≤ _ by rwa [Nat.zero_add]⟩

theorem shift_ne_none (bk : BK) (n : Nat) : (bk.shift n != BK.none) = (bk != BK.none) := by
  cases bk <;> rfl

theorem BK.shift_shift (bk : BK) (n e : Nat) : (bk.shift n).shift e = bk.shift (e + n) := by
  cases bk <;> simp only [BK.shift, Nat.add_assoc, Nat.add_comm n e]

theorem map_add_map (ce : Option Nat) (n e : Nat) : (ce.map (· + n)).map (e + ·) = ce.map (e + n + ·) := by
  cases ce <;> simp only [Option.map_none, Option.map_some, Nat.add_assoc, Nat.add_comm n]

def FunsOK (code : List Op) (dmap : List Nat) (F : FunTab) : Prop :=
  ∀ addr body ts, F addr = some (body, ts) →
    CodeAt code dmap addr (compileS body BK.none none ++ [(Op.ret, ts)]) ∧ WFS body false false = true ∧ placed F body addr = true

theorem funsOf_ok (F : FunTab) (code : List Op) (dmap : List Nat) : ∀ (st : Stmt) (bk : BK) (ce : Option Nat) (pc : Nat) (k r : Bool),
    CodeAt code dmap pc (compileS st bk ce) → WFS st k r = true → placed F st pc = true →
    ∀ e ∈ funsOf st pc, CodeAt code dmap e.1 (compileS e.2.1 BK.none none ++ [(Op.ret, e.2.2)]) ∧
      WFS e.2.1 false false = true ∧ placed F e.2.1 e.1 = true := by
  intro st
  induction st
  case skip | op | brk | call => intro _ _ _ _ _ _ _ _ e he; simp only [funsOf, List.not_mem_nil] at he
  all_goals
    intro bk ce pc k r hc hw hp e he
    simp only [compileS] at hc
    simp only [WFS, placed, funsOf, Bool.and_eq_true, List.mem_append, List.mem_cons] at hw hp he
  case seq a b iha ihb =>
    exact he.elim (iha _ _ _ k r hc.left hw.1 hp.1 e) (ihb _ _ _ k r (by simpa using hc.right) hw.2 hp.2 e)
  case ifThen t a ih => exact ih _ _ _ k false hc.tail hw hp e he
  case ifElse t te a b iha ihb =>
    obtain ⟨ha, _, hb⟩ := hc.tail.split
    exact he.elim (iha _ _ _ k false ha hw.1 hp.1 e) (ihb _ _ _ k false (by simpa using hb) hw.2 hp.2 e)
  case untilLoop t a ih => exact ih _ _ _ false false hc.left hw hp e he
  case whileLoop tw tr c a ihc iha =>
    obtain ⟨hcc, _, ha⟩ := hc.left.split
    exact he.elim (ihc _ _ _ false false hcc hw.1 hp.1 e) (iha _ _ _ true false (by simpa using ha) hw.2 hp.2 e)
  case repeatLoop tr a ih => exact ih _ _ _ true false hc.left hw hp e he
  case doLoop td tl a ih => exact ih _ _ _ true false hc.tail.left hw hp e he
  case caseS a ih => exact ih _ _ _ k true hc hw hp e he
  case arm tOf tEndof body ih => exact ih _ _ _ k false hc.tail.left hw.2 hp e he
  case defn tc ts body ih =>
    rcases he with rfl | he
    · exact ⟨hc.tail, hw, hp⟩
    · exact ih _ _ _ false false hc.tail.left hw hp e he

/-- `Laid st pc E B C`: the code from `pc` to `E` is laid out as `st`. Each opcode of `st` stands where it should and leads, in
    absolute terms, where it should; a `break` leads where `B` says (measured from address 0), a finished arm to `C`. No size
    and no distance occurs: those are the business of `laid_of` alone, and the simulation runs over this. -/
inductive Laid (F : FunTab) (code : List Op) (dmap : List Nat) : Stmt → Nat → Nat → BK → Option Nat → Prop
  | skip {pc B C} : Laid F code dmap .skip pc pc B C
  | op {t o pc B C} : OpAt code dmap pc (o, t) → straight o = true → Laid F code dmap (.op t o) pc (pc + 1) B C
  | seq {a b pc mid E B C} : Laid F code dmap a pc mid B C → Laid F code dmap b mid E B C → Laid F code dmap (.seq a b) pc E B C
  | ifThen {t a pc E B C} : JAt code dmap .jumpIfNot pc t E → Laid F code dmap a (pc + 1) E B none →
      Laid F code dmap (.ifThen t a) pc E B C
  | ifElse {t te a b pc j E B C} : JAt code dmap .jumpIfNot pc t (j + 1) → Laid F code dmap a (pc + 1) j B none →
      JAt code dmap .jump j te E → Laid F code dmap b (j + 1) E B none → Laid F code dmap (.ifElse t te a b) pc E B C
  | untilLoop {t a pc j B C} : Laid F code dmap a pc j .none none → JAt code dmap .jumpIfNot j t pc →
      Laid F code dmap (.untilLoop t a) pc (j + 1) B C
  | whileLoop {tw tr c a pc j r B C} : Laid F code dmap c pc j .none none → JAt code dmap .jumpIfNot j tw (r + 1) →
      Laid F code dmap a (j + 1) r (.jump (r + 1)) none → JAt code dmap .jump r tr pc →
      Laid F code dmap (.whileLoop tw tr c a) pc (r + 1) B C
  | repeatLoop {tr a pc j B C} : Laid F code dmap a pc j (.jump (j + 1)) none → JAt code dmap .jump j tr pc →
      Laid F code dmap (.repeatLoop tr a) pc (j + 1) B C
  | doLoop {td tl a pc j B C} : JAt code dmap .doOp pc td (j + 1) → Laid F code dmap a (pc + 1) j (.loop (j + 1)) none →
      JAt code dmap .loopOp j tl (pc + 1) → Laid F code dmap (.doLoop td tl a) pc (j + 1) B C
  | brk {t pc B C} : BreakAt code dmap pc B 0 t → Laid F code dmap (.brk t) pc (pc + 1) B C
  | caseS {a pc E B C} : Laid F code dmap a pc E B (some E) → Laid F code dmap (.caseS a) pc E B C
  | arm {tOf tEndof body pc j c B} : JAt code dmap .caseOf pc tOf (j + 1) → Laid F code dmap body (pc + 1) j B none →
      JAt code dmap .jump j tEndof c → Laid F code dmap (.arm tOf tEndof body) pc (j + 1) B (some c)
  | defn {tc ts body pc E B C} : JAt code dmap .jump pc tc E → Laid F code dmap (.defn tc ts body) pc E B C
  | call {t addr body ts pc B C} : OpAt code dmap pc (.call addr, t) → F addr = some (body, ts) →
      Laid F code dmap (.call t addr (pc + 1)) pc (pc + 1) B C

/-- What the compositional compiler emits is laid out as the statement. `B` and `C` are the contexts `bk` and `ce` of the compiler
    measured from address 0 instead of from the end `E` of the fragment. Every target lies within the code, which keeps it clear
    of the `2^64` wrap of `calcJump`: a `break` and a finished arm by hypothesis, the others because the end of a part is the end
    of the whole or the address of an opcode. No case does arithmetic: a jump over what follows it (`JAt.skip`, `JAt.skip1`) or
    back over what precedes it (`JAt.back`) lands where `Laid` wants it. -/
theorem laid_of {F : FunTab} {code : List Op} {dmap : List Nat} (hlen : code.length < 2^62) :
    ∀ (st : Stmt) (bk : BK) (ce : Option Nat) (pc : Nat) {E : Nat} {B : BK} {C : Option Nat},
    CodeAt code dmap pc (compileS st bk ce) → WFS st (B != BK.none) C.isSome = true → placed F st pc = true →
    E = pc + size st → B = bk.shift E → C = ce.map (E + ·) →
    E ≤ code.length → BKOk code B 0 → (∀ c, C = some c → c ≤ code.length) → Laid F code dmap st pc E B C := by
  intro st
  induction st
  all_goals
    intro bk ce pc E B C hc hw hpl hE hB hC le hbk hce
    simp only [compileS] at hc
    try simp only [WFS, placed, Bool.and_eq_true] at hw hpl
    subst hE
    try simp only [size, ← Nat.add_assoc] at le hB hC ⊢
  case skip => exact .skip
  case op t o => exact .op hc.head hw
  case seq a b iha ihb =>
    exact .seq (iha _ _ _ hc.left hw.1 hpl.1 rfl (hB.trans (bk.shift_shift ..).symm) (hC.trans (map_add_map ..).symm)
        (Nat.le_of_add_right_le le) hbk hce)
      (ihb _ _ _ (by simpa using hc.right) hw.2 hpl.2 rfl hB hC le hbk hce)
  case ifThen t a ih =>
    exact .ifThen (.skip hlen hc.head le) (ih _ _ _ hc.tail hw hpl rfl hB rfl le hbk nofun)
  case ifElse t te a b iha ihb =>
    obtain ⟨ha, hj, hb⟩ := hc.tail.split
    rw [compileS_length] at hj hb
    exact .ifElse (.skip1 hlen hc.head hj)
      (iha _ _ _ ha hw.1 hpl.1 rfl (hB.trans (by rw [BK.shift_shift, Nat.add_assoc])) rfl hj.le hbk nofun)
      (.skip hlen hj le) (ihb _ _ _ hb hw.2 hpl.2 rfl hB rfl le hbk nofun)
  case untilLoop t a ih =>
    obtain ⟨ha, hj, _⟩ := hc.split
    rw [compileS_length] at hj
    exact .untilLoop (ih _ _ _ ha hw hpl rfl rfl rfl hj.le trivial nofun) (.back hlen hj rfl)
  case whileLoop tw tr c a ihc iha =>
    rw [List.append_assoc] at hc
    obtain ⟨hcc, hjw, hc⟩ := hc.split
    obtain ⟨ha, hjr, _⟩ := hc.split
    simp only [compileS_length] at hjw ha hjr
    exact .whileLoop (ihc _ _ _ hcc hw.1 hpl.1 rfl rfl rfl hjw.le trivial nofun) (.skip1 hlen hjw hjr)
      (iha _ _ _ ha hw.2 hpl.2 rfl (congrArg BK.jump (Nat.add_comm ..)) rfl hjr.le (BKOk.base le).1 nofun)
      (.back hlen hjr (by simp only [Nat.add_assoc]))
  case repeatLoop tr a ih =>
    obtain ⟨ha, hj, _⟩ := hc.split
    rw [compileS_length] at hj
    exact .repeatLoop (ih _ _ _ ha hw hpl rfl (congrArg BK.jump (Nat.add_comm ..)) rfl hj.le (BKOk.base le).1 nofun)
      (.back hlen hj rfl)
  case doLoop td tl a ih =>
    obtain ⟨ha, hj, _⟩ := hc.tail.split
    rw [compileS_length] at hj
    exact .doLoop (.skip1 hlen hc.head hj)
      (ih _ _ _ ha hw hpl rfl (congrArg BK.loop (Nat.add_comm ..)) rfl hj.le (BKOk.base le).2 nofun)
      (.back hlen hj rfl)
  case brk t =>
    cases bk with
    | none => subst hB; cases hw
    | jump k => subst hB; exact .brk (breakAt_jump.mpr (.brk hlen hc.head hbk))
    | loop k => subst hB; exact .brk (breakAt_loop.mpr (.brk hlen hc.head hbk))
  case caseS a ih => exact .caseS (ih _ _ _ hc hw hpl rfl hB rfl le hbk fun c h => Option.some.inj h ▸ le)
  case arm tOf tEndof body ih =>
    obtain ⟨hb, hj, _⟩ := hc.tail.split
    rw [compileS_length] at hj
    subst hC
    cases ce with
    | none => cases hw.1
    | some n =>
      exact .arm (.skip1 hlen hc.head hj)
        (ih _ _ _ hb hw.2 hpl rfl (hB.trans (bk.shift_shift ..).symm) rfl hj.le hbk nofun) (.skip hlen hj (hce _ rfl))
  case defn tc ts body ih => exact .defn (.skip1 hlen hc.head (compileS_length body .none none ▸ hc.tail.right.head))
  case call t addr ret =>
    obtain ⟨hret, hsome⟩ := hpl
    obtain ⟨⟨body, ts⟩, hFa⟩ := Option.isSome_iff_exists.mp hsome
    exact beq_iff_eq.mp hret ▸ .call hc.head hFa

section main
-- every jump target is at most `code.length` and must stay below `2^64` for `calcJump_eq`; any such bound would do, `2^62` is
-- the one C01 assumes of `size st`
variable (np : String → Option Prog) (F : FunTab) (code : List Op) (dmap : List Nat) (hlen : code.length < 2^62)
  (hF : FunsOK code dmap F)
include hlen hF

def SimStmt (f : Nat) : Prop :=
  ∀ (st : Stmt) (bk : BK) (ce : Option Nat) (pc : Nat) (mv ms : Mach), VOK code mv → Rel mv ms → mv.ctx.ip = pc →
    CodeAt code dmap pc (compileS st bk ce) → WFS st (bk != BK.none) ce.isSome = true → BKOk code bk (pc + size st) →
    pc + size st + ce.getD 0 ≤ code.length → placed F st pc = true →
    SimT np code dmap mv (pc + size st) bk (pc + size st + ce.getD 0) (evalS np F f st ms)

/-- the iterations of a counted loop: the VM stands at the first opcode of the body (`pc + 1`) with the loop record
    pushed, and ends behind the `Loop` opcode -/
def SimIter (f : Nat) : Prop :=
  ∀ (td tl : Nat) (a : Stmt) (bk : BK) (ce : Option Nat) (pc : Nat) (mv ms : Mach), VOK code mv → Rel mv ms →
    mv.ctx.ip = pc + 1 → CodeAt code dmap pc (compileS (.doLoop td tl a) bk ce) → WFS a true false = true →
    placed F a (pc + 1) = true →
    SimT np code dmap mv (pc + size a + 2) BK.none 0 (doIter np F f tl a ms)

/-- `FunsOK` in terms of the layout: the body of every word of the table is laid out at its entry address, in a context that
    lets no `break` and no finished arm out, with the `Ret` of its `;` at the end. That the body is well formed is what
    `ends_aux` asks for, which the call case needs. -/
def FunsLaid : Prop :=
  ∀ addr body ts, F addr = some (body, ts) →
    WFS body false false = true ∧ ∃ r, Laid F code dmap body addr r .none none ∧ OpAt code dmap r (.ret, ts)

/-- `SimStmt` for code that is `Laid` instead of compiled -/
def SimL (f : Nat) : Prop :=
  ∀ ⦃st pc E B C mv ms⦄, Stands code mv pc ms → Laid F code dmap st pc E B C →
    SimA np code dmap mv E B C (evalS np F f st ms)

/-- `SimIter` likewise: the VM stands at the first opcode `pc` of the body with the loop record pushed, `Loop` stands at `j` -/
def SimIterL (f : Nat) : Prop :=
  ∀ ⦃tl a pc j B C mv ms⦄, Stands code mv pc ms → Laid F code dmap a pc j (.loop (j + 1)) none → JAt code dmap .loopOp j tl pc →
    SimA np code dmap mv (j + 1) B C (doIter np F f tl a ms)

omit hlen hF

theorem sim_stmt (hL : FunsLaid F code dmap) (f : Nat) (ih : SimL np F code dmap f) (ihD : SimIterL np F code dmap f) :
    SimL np F code dmap (f + 1) := by
  intro st pc E B C mv ms s h
  cases h with
  | skip => rw [evalS_skip]; exact Catch.refl s
  | op hx hs =>
    rw [evalS_op]
    have h1 := one_step np s hx (fun n e => by subst e; cases hs)
    rw [execBody_straight np ms pc hs] at h1
    exact h1.ofR fun _ _ _ h2 => h2
  | seq ha hb =>
    rw [evalS_seq]
    exact (ih s ha).next (fun _ _ _ s1 => ih s1 hb) (fun _ _ ipb c b => ⟨ipb, c, b⟩) (fun _ c e h => ⟨c, e, h⟩)
  | ifThen hj ha =>
    rw [evalS_ifThen]
    exact SimA.cond s hj (fun _ _ s1 => (ih s1 ha).noExit) (fun _ _ s1 => Catch.refl s1)
  | ifElse hj ha hje hb =>
    rw [evalS_ifElse]
    exact SimA.cond s hj (fun _ _ s1 => ((ih s1 ha).then fun _ _ s2 => hje.jump np s2).noExit) (fun _ _ s1 => (ih s1 hb).noExit)
  | untilLoop ha hj =>
    rw [evalS_until]
    exact (ih s ha).next (fun _ _ _ s1 => SimA.cond s1 hj (fun _ _ s2 => Catch.refl s2) (fun _ _ s2 => ih s2 (.untilLoop ha hj)))
      (fun _ _ _ _ b => b.2.elim) (fun _ _ e _ => nomatch e)
  | whileLoop hc hjw ha hjr =>
    rw [evalS_while]
    refine (ih s hc).next (fun _ _ _ s1 => SimA.cond s1 hjw (fun _ _ s2 => ?_) (fun _ _ s2 => Catch.refl s2))
      (fun _ _ _ _ b => b.2.elim) (fun _ _ e _ => nomatch e)
    exact (ih s2 ha).next (fun _ _ _ s3 => SimA.after _ (hjr.jump np s3) fun _ s4 => ih s4 (.whileLoop hc hjw ha hjr))
      (fun _ _ _ cb b => cb.trans fun _ s3 => (breakAt_jump.mp b).jump np s3) (fun _ _ e _ => nomatch e)
  | repeatLoop ha hj =>
    rw [evalS_repeat]
    exact (ih s ha).next (fun _ _ _ s1 => SimA.after _ (hj.jump np s1) fun _ s2 => ih s2 (.repeatLoop ha hj))
      (fun _ _ _ cb b => cb.trans fun _ s1 => (breakAt_jump.mp b).jump np s1) (fun _ _ e _ => nomatch e)
  | doLoop hd ha hl =>
    obtain ⟨rel, hx, hj⟩ := hd
    rw [evalS_do]
    refine (one_step np s hx nofun).ofR fun l m1 _ h2 => ?_
    by_cases hlt : l.start < l.stop
    · simp only [hlt, if_true] at h2 ⊢
      exact SimA.after _ h2 fun _ s1 => ihD s1 ha hl
    · simp only [hlt, if_false] at h2 ⊢
      exact hj ▸ h2
  | brk hb => rw [evalS_brk]; exact ⟨pc, Catch.refl s, hb⟩
  | caseS ha =>
    rw [evalS_caseS]
    exact (ih s ha).next (fun _ _ _ s1 => Catch.refl s1) (fun _ _ ipb c b => ⟨ipb, c, b⟩) (fun _ _ e h => Option.some.inj e ▸ h)
  | arm hj hb hje =>
    obtain ⟨rel, hx, hj⟩ := hj
    rw [evalS_arm]
    have h1 := one_step np s hx nofun
    rw [execBody_caseOf] at h1
    refine h1.ofR fun hit m1 _ h2 => ?_
    cases hit with
    | false => exact hj ▸ h2
    | true =>
      -- `endof`: jump to the end of the whole case
      exact SimA.after _ h2 fun _ s1 => (ih s1 hb).next (fun _ _ _ s2 => ⟨_, rfl, hje.jump np s2⟩)
        (fun _ _ ipb c b => ⟨ipb, c, b⟩) (fun _ _ e _ => nomatch e)
  | defn hj => rw [evalS_defn]; exact hj.jump np s
  | call hx hFa =>
    rename_i t addr body ts
    obtain ⟨hwf, r, hb, hret⟩ := hL addr body ts hFa
    rw [evalS_call np F f ms t addr (pc + 1) hFa]
    have hcall : Catch np code mv addr (ms.pushReturn { fnAddr := addr, returnTo := pc + 1, locals := [] }) :=
      one_step np s hx nofun
    have hkeep := (ends_aux np F f).1 body (ms.pushReturn { fnAddr := addr, returnTo := pc + 1, locals := [] }) false false hwf
    refine SimA.after _ hcall fun _ s1 => ?_
    refine (ih s1 hb).next (fun m2 e _ s2 => ?_) (fun _ _ _ _ b => b.2.elim) (fun _ _ e _ => nomatch e)
    rw [e] at hkeep
    -- the frame `;` pops is the one the call pushed: its return address is the opcode after the call
    exact (one_step np s2 hret nofun).ofR fun fr m3 hp h3 => SimA.after _ h3 fun _ s3 =>
      Catch.refl (s3.at ((hkeep fun a b ts h => (hL a b ts h).1).popReturn hp).2)

theorem sim_iter (f : Nat) (ih : SimL np F code dmap f) (ihD : SimIterL np F code dmap f) : SimIterL np F code dmap (f + 1) := by
  intro tl a pc j B C mv ms s ha hl
  obtain ⟨rel, hx, hj⟩ := hl
  rw [doIter_succ]
  refine (ih s ha).next (fun m1 _ _ s1 => ?_) (fun t m1 ipb cb b => ?_) (fun _ _ e _ => nomatch e)
  · refine (one_step np s1 hx nofun).ofR fun more m2 _ h2 => ?_
    cases more with
    | true => exact SimA.after _ h2 fun _ s2 => ihD (s2.at hj) ha ⟨rel, hx, hj⟩
    | false => exact Does.ofR h2 fun _ m3 _ h3 => h3
  · -- the compiled `break` is a `Break` opcode: it pops the loop record and jumps behind the loop
    obtain ⟨rel', hx', hj'⟩ := breakAt_loop.mp b
    exact SimA.after _ cb fun _ s1 => (one_step np s1 hx' nofun).ofR fun _ m2 _ h2 => hj' ▸ h2

/-- **the simulation, for any code laid out as the statement** (whatever produced it) -/
theorem sim_laid (hL : FunsLaid F code dmap) : ∀ f, SimL np F code dmap f ∧ SimIterL np F code dmap f := by
  intro f
  induction f with
  | zero => exact ⟨fun _ _ _ _ _ _ _ _ _ => by rw [evalS_zero]; trivial, fun _ _ _ _ _ _ _ _ _ _ _ => by rw [doIter_zero]; trivial⟩
  | succ f ih => exact ⟨sim_stmt np F code dmap hL f ih.1 ih.2, sim_iter np F code dmap f ih.1 ih.2⟩

include hlen hF

theorem funsLaid_of : FunsLaid F code dmap := by
  intro addr body ts hFa
  obtain ⟨hc, hw, hp⟩ := hF addr body ts hFa
  obtain ⟨hcb, hret, _⟩ := hc.split
  rw [compileS_length] at hret
  exact ⟨hw, _, laid_of hlen body .none none addr hcb hw hp rfl rfl rfl hret.le trivial nofun, hret⟩

theorem sim_all : ∀ f, SimStmt np F code dmap f ∧ SimIter np F code dmap f := by
  intro f
  have h := sim_laid np F code dmap (funsLaid_of F code dmap hlen hF) f
  refine ⟨fun st bk ce pc mv ms v hr hip hc hw hbk hend hpl => SimA.toSimT (h.1 ⟨hip, hr, v⟩ ?_), ?_⟩
  · -- the hypotheses of `SimStmt`, measured from address 0
    refine laid_of hlen st bk ce pc hc (by rwa [shift_ne_none, Option.isSome_map]) hpl rfl rfl rfl
      (Nat.le_of_add_right_le hend) hbk.abs fun c h => ?_
    cases ce with
    | none => cases h
    | some n => cases h; exact hend
  intro td tl a bk ce pc mv ms v hr hip hc hw hpl
  simp only [compileS] at hc
  obtain ⟨ha, hj, _⟩ := hc.tail.split
  rw [compileS_length] at hj
  have := h.2 (B := .none) (C := none) ⟨hip, hr, v⟩
    (laid_of hlen a (.loop 1) none (pc + 1) ha hw hpl rfl (congrArg BK.loop (Nat.add_comm ..)) rfl hj.le
      (BKOk.base (Nat.succ_le_of_lt hj.lt)).2 nofun)
    (.back hlen hj rfl)
  exact (show pc + size a + 2 = pc + 1 + size a + 1 by omega) ▸ this.closed

end main

end Xeh.Structured
