/-
Sealing: whatever the VM executes, it never touches the part of the stacks below the marks of the current context,
never changes the marks, the dictionary or the size of the heap, and inside a meta block changes neither the bytecode
nor any heap cell.  The stack part needs no second pass over the primitives: `Rev m m' seg` says that undoing `seg` leads
from `m'` back to `m`, and undoing never reaches below a mark (every undo step is guarded by the mark or pushes on top).
-/
import XehModel.Proofs.VMRev2

namespace Xeh.Mach

/-- the bottom `n` entries of a stack kept top-first -/
def hidOf (l : List α) (n : Nat) : List α := l.drop (l.length - n)

theorem hidOf_cons (x : α) (l : List α) (n : Nat) (h : n ≤ l.length) : hidOf (x :: l) n = hidOf l n := by
  simp only [hidOf, List.length_cons]
  have : l.length + 1 - n = (l.length - n) + 1 := by omega
  rw [this, List.drop_succ_cons]

theorem hidOf_append (xs r : List α) (n : Nat) (h : n ≤ r.length) : hidOf (xs ++ r) n = hidOf r n := by
  induction xs with
  | nil => rfl
  | cons x xs ih => rw [List.cons_append, hidOf_cons _ _ _ (by rw [List.length_append]; omega), ih]

theorem hidOf_all (l : List α) : hidOf l l.length = l := by simp [hidOf]

def _root_.Xeh.Ctx.marks (c : Ctx) : Ctx := { c with ip := 0 }

structure Hid where
  ds : List Cell
  rs : List Frame
  loops : List Loop
  special : List Nat
  marks : Ctx
deriving DecidableEq

def Core.hid (c : Core) : Hid :=
  ⟨hidOf c.ds c.ctx.dsLen, hidOf c.rs c.ctx.rsLen, hidOf c.loops c.ctx.lsLen, hidOf c.special c.ctx.ssPtr, c.ctx.marks⟩

/-- every undo step is guarded by the mark or pushes on top: it rewrites `xs ++ r` to `ys ++ r` with the mark within `r`
    (`WF` reads the core only, so a core is well formed when the empty machine carrying it is) -/
theorem undoC_hid (c c' : Core) (s : RStep) (w : WF (setCore {} c)) (h : undoC c s = (.ok (), c')) :
    WF (setCore {} c') ∧ c'.hid = c.hid := by
  have ⟨wds, wrs, wls, wss⟩ : c.ctx.dsLen ≤ c.ds.length ∧ c.ctx.rsLen ≤ c.rs.length ∧
      c.ctx.lsLen ≤ c.loops.length ∧ c.ctx.ssPtr ≤ c.special.length := ⟨w.ds, w.rs, w.ls, w.ss⟩
  cases s <;> simp only [undoC] at h
  case setIp ip => cases h; exact ⟨⟨wds, wrs, wls, wss⟩, rfl⟩
  case pushData x =>
    cases h
    exact ⟨⟨Nat.le_succ_of_le wds, wrs, wls, wss⟩, by simp only [Core.hid, hidOf_cons _ _ _ wds]⟩
  case pushReturn x =>
    cases h
    exact ⟨⟨wds, Nat.le_succ_of_le wrs, wls, wss⟩, by simp only [Core.hid, hidOf_cons _ _ _ wrs]⟩
  case pushLoop x =>
    cases h
    exact ⟨⟨wds, wrs, Nat.le_succ_of_le wls, wss⟩, by simp only [Core.hid, hidOf_cons _ _ _ wls]⟩
  case pushSpecial x =>
    cases h
    exact ⟨⟨wds, wrs, wls, Nat.le_succ_of_le wss⟩, by simp only [Core.hid, hidOf_cons _ _ _ wss]⟩
  case popData =>
    split at h
    · rename_i x rest hds
      split at h
      · rename_i hg; cases h
        rw [hds] at hg
        have hle : c.ctx.dsLen ≤ rest.length := Nat.le_of_lt_succ hg
        exact ⟨⟨hle, wrs, wls, wss⟩, by simp only [Core.hid, hds, hidOf_cons x rest _ hle]⟩
      · cases h
    · cases h
  case swapData =>
    split at h
    · rename_i a b r hds
      split at h
      · rename_i hg; cases h
        rw [hds] at hg
        have hle : c.ctx.dsLen ≤ r.length := Nat.le_of_add_le_add_right hg
        have e : hidOf (b :: a :: r) c.ctx.dsLen = hidOf (a :: b :: r) c.ctx.dsLen :=
          (hidOf_append [b, a] r _ hle).trans (hidOf_append [a, b] r _ hle).symm
        exact ⟨⟨Nat.le_trans hle (Nat.le_add_right _ 2), wrs, wls, wss⟩, by simp only [Core.hid, hds, e]⟩
      · cases h
    · cases h
  case rotData =>
    split at h
    · rename_i a b x r hds
      split at h
      · rename_i hg; cases h
        rw [hds] at hg
        have hle : c.ctx.dsLen ≤ r.length := Nat.le_of_add_le_add_right hg
        have e : hidOf (x :: b :: a :: r) c.ctx.dsLen = hidOf (a :: b :: x :: r) c.ctx.dsLen :=
          (hidOf_append [x, b, a] r _ hle).trans (hidOf_append [a, b, x] r _ hle).symm
        exact ⟨⟨Nat.le_trans hle (Nat.le_add_right _ 3), wrs, wls, wss⟩, by simp only [Core.hid, hds, e]⟩
      · cases h
    · cases h
  case overData =>
    split at h
    · split at h
      · cases h; exact ⟨w, rfl⟩
      · cases h
    · cases h
  case popReturn =>
    split at h
    · rename_i x rest hrs
      split at h
      · rename_i hg; cases h
        rw [hrs] at hg
        have hle : c.ctx.rsLen ≤ rest.length := Nat.le_of_lt_succ hg
        exact ⟨⟨wds, hle, wls, wss⟩, by simp only [Core.hid, hrs, hidOf_cons x rest _ hle]⟩
      · cases h
    · cases h
  case popLoop =>
    split at h
    · rename_i x rest hls
      split at h
      · rename_i hg; cases h
        rw [hls] at hg
        have hle : c.ctx.lsLen ≤ rest.length := Nat.le_of_lt_succ hg
        exact ⟨⟨wds, wrs, hle, wss⟩, by simp only [Core.hid, hls, hidOf_cons x rest _ hle]⟩
      · cases h
    · cases h
  case loopNextBack l =>
    split at h
    · rename_i x rest hls
      split at h
      · rename_i hg; cases h
        rw [hls] at hg
        have hle : c.ctx.lsLen ≤ rest.length := Nat.le_of_lt_succ hg
        exact ⟨⟨wds, wrs, Nat.le_succ_of_le hle, wss⟩,
          by simp only [Core.hid, hls, hidOf_cons l rest _ hle, hidOf_cons x rest _ hle]⟩
      · cases h
    · cases h
  case popSpecial =>
    split at h
    · rename_i x rest hss
      split at h
      · rename_i hg; cases h
        rw [hss] at hg
        have hle : c.ctx.ssPtr ≤ rest.length := Nat.le_of_lt_succ hg
        exact ⟨⟨wds, wrs, wls, hle⟩, by simp only [Core.hid, hss, hidOf_cons x rest _ hle]⟩
      · cases h
    · cases h
  case restoreLocals ls =>
    split at h
    · rename_i f rest hrs
      split at h
      · rename_i hg; cases h
        rw [hrs] at hg
        have hle : c.ctx.rsLen ≤ rest.length := Nat.le_of_lt_succ hg
        exact ⟨⟨wds, Nat.le_succ_of_le hle, wls, wss⟩,
          by simp only [Core.hid, hrs, hidOf_cons _ rest _ hle]⟩
      · cases h
    · cases h
  case swapRef idx x =>
    split at h
    · cases h; exact ⟨⟨wds, wrs, wls, wss⟩, rfl⟩
    · cases h

theorem undoList_hid (seg : List RStep) : ∀ (c c' : Core), WF (setCore {} c) → undoList seg c = .ok c' → c'.hid = c.hid := by
  induction seg with
  | nil => intro c c' _ h; simp [undoList] at h; subst h; rfl
  | cons s rest ih =>
    intro c c' w h
    simp only [undoList] at h
    split at h
    · rename_i c1 heq
      obtain ⟨w1, h1⟩ := undoC_hid c c1 s w heq
      rw [ih c1 c' w1 h, h1]
    · cases h
    · cases h

theorem Rev.hid {m m' : Mach} {seg : List RStep} (r : Rev m m' seg) (w : WF m) : m'.core.hid = m.core.hid :=
  have w' := r.wf w
  (undoList_hid seg m'.core m.core ⟨w'.ds, w'.rs, w'.ls, w'.ss⟩ r.undo).symm

structure Sealed (m m' : Mach) : Prop where
  hid : m'.core.hid = m.core.hid
  wf : WF m'
  dict : m'.dict = m.dict
  codeLen : m'.code.length = m.code.length
  heapLen : m'.heap.length = m.heap.length
  limits : m'.insnLimit = m.insnLimit ∧ m'.stackLimit = m.stackLimit ∧ m'.heapLimit = m.heapLimit
  codeMeta : m.ctx.mode = .metaEval → m'.code = m.code
  heapMeta : m.ctx.mode = .metaEval → m'.heap = m.heap
  nolog : m.log = none → m'.log = none
  log : ∀ ℓ, m.log = some ℓ → ∃ seg, m'.log = some (seg ++ ℓ)

theorem Sealed.refl (m : Mach) (w : WF m) : Sealed m m :=
  ⟨rfl, w, rfl, rfl, rfl, ⟨rfl, rfl, rfl⟩, fun _ => rfl, fun _ => rfl, id, fun ℓ h => ⟨[], by simpa using h⟩⟩

theorem Sealed.mode {a b : Mach} (h : Sealed a b) : b.ctx.mode = a.ctx.mode := by
  have := congrArg (fun x => x.marks.mode) h.hid
  simpa [Core.hid, Ctx.marks, Mach.core] using this

theorem Sealed.trans {a b c : Mach} (h1 : Sealed a b) (h2 : Sealed b c) : Sealed a c where
  hid := h2.hid.trans h1.hid
  wf := h2.wf
  dict := h2.dict.trans h1.dict
  codeLen := h2.codeLen.trans h1.codeLen
  heapLen := h2.heapLen.trans h1.heapLen
  limits := ⟨h2.limits.1.trans h1.limits.1, h2.limits.2.1.trans h1.limits.2.1, h2.limits.2.2.trans h1.limits.2.2⟩
  codeMeta := fun hm => (h2.codeMeta (h1.mode.trans hm)).trans (h1.codeMeta hm)
  heapMeta := fun hm => (h2.heapMeta (h1.mode.trans hm)).trans (h1.heapMeta hm)
  nolog := fun h => h2.nolog (h1.nolog h)
  log := fun ℓ h => by
    obtain ⟨s1, e1⟩ := h1.log ℓ h
    obtain ⟨s2, e2⟩ := h2.log _ e1
    exact ⟨s2 ++ s1, by rw [e2, List.append_assoc]⟩

theorem Rev.sealed {m m' : Mach} {seg : List RStep} (r : Rev m m' seg) (w : WF m) : Sealed m m' where
  hid := r.hid w
  wf := r.wf w
  dict := r.fr.dict
  codeLen := by rw [r.fr.code]
  heapLen := r.fr.heapLen
  limits := ⟨r.fr.insnLimit, r.fr.stackLimit, r.fr.heapLimit⟩
  codeMeta := fun _ => r.fr.code
  heapMeta := r.heapMeta
  nolog := r.nolog
  log := fun ℓ h => ⟨seg, r.log ℓ h⟩

theorem setIp_sealed (m : Mach) (n : Nat) (w : WF m) : Sealed m (m.setIp n) where
  hid := by unfold Core.hid; rfl
  wf := ⟨w.ds, w.rs, w.ls, w.ss⟩
  dict := rfl
  codeLen := rfl
  heapLen := rfl
  limits := ⟨rfl, rfl, rfl⟩
  codeMeta := fun _ => rfl
  heapMeta := fun _ => rfl
  nolog := logStep_nolog m _
  log := fun ℓ h => ⟨[.setIp m.ctx.ip], logStep_log m _ ℓ h⟩

theorem Sealed.of_core {m m' : Mach} (w : WF m) (hc : m'.core = m.core) (hl : m'.log = m.log) (dict : m'.dict = m.dict)
    (codeLen : m'.code.length = m.code.length)
    (limits : m'.insnLimit = m.insnLimit ∧ m'.stackLimit = m.stackLimit ∧ m'.heapLimit = m.heapLimit)
    (codeMeta : m.ctx.mode = .metaEval → m'.code = m.code) : Sealed m m' :=
  have hheap : m'.heap = m.heap := congrArg Core.heap hc
  ⟨by rw [hc], w.of_core hc, dict, codeLen, by rw [hheap], limits, codeMeta, fun _ => hheap,
   fun hn => hl.trans hn, fun ℓ hℓ => ⟨[], hl.trans hℓ⟩⟩

theorem Pre.sealed {m m0 : Mach} (p : Pre m m0) (w : WF m) : Sealed m m0 :=
  .of_core w p.core p.log p.dict p.codeLen ⟨p.insnLimit, p.stackLimit, p.heapLimit⟩ p.codeMeta

theorem Shape.sealed {m : Mach} {r : R Unit} (s : Shape m r) (w : WF m) : Sealed m r.2 := by
  cases s with
  | fail seg mp h e ne => rw [e]; exact h.sealed w
  | done seg mp n h e => rw [e]; exact (h.sealed w).trans (setIp_sealed mp n (h.wf w))

theorem step_sealed (np : String → Option Prog) (m : Mach) (w : WF m) : Sealed m (step np m).2 := by
  cases step_shape np m w with
  | early h hl ne hm hN lims rest =>
    exact .of_core w h hl rest.1 rest.2.2.1 ⟨lims.2, lims.1, rest.2.1⟩ rest.2.2.2
  | exec m0 p s => exact (p.sealed w).trans (s.sealed (p.wf w))

theorem next_sealed (np : String → Option Prog) (m : Mach) (w : WF m) : Sealed m (next np m).2 := by
  unfold next; split
  · exact step_sealed np m w
  · exact Sealed.refl m w

theorem run_sealed (np : String → Option Prog) : ∀ (fuel : Nat) (m : Mach) (r : R Unit), WF m →
    run np fuel m = some r → Sealed m r.2 :=
  fun fuel m r w h =>
    run_rel (fun m m' => WF m → Sealed m m') Sealed.refl (fun h1 h2 w => (h1 w).trans (h2 (h1 w).wf))
      (fun m _ => step_sealed np m) fuel m r h w

end Xeh.Mach
