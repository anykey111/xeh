/-
The mutating bit-string operations (bitstr.rs `append_bits_mut`, `append`, `insert`, `invert`). Byte level: the `xor` loop
flips bits one index at a time; truncation with masking, and the bit loop after it, compute `pack` of the bits they keep
and add (Proofs/BitsPack.lean), so `appendCore` is one equation. Heap level: `Consumed` says what `detach` leaves and is
kept by every write into the detached buffer; `Frame` is what the rest of the heap sees.
-/
import XehModel.Proofs.BitstrOps
import XehModel.Proofs.BitstrRange

namespace Xeh.Bitstr
open Xeh Xeh.Bits

theorem mem_set_lt (data : List Nat) (i d : Nat) (hb : ∀ b ∈ data, b < 256) (hd : d < 256) :
    ∀ b ∈ data.set i d, b < 256 := by
  intro b hb'
  rcases List.mem_or_eq_of_mem_set hb' with h | h
  · exact hb b h
  · exact h ▸ hd

theorem getElem?_xor_bit (data : List Nat) (p i : Nat) (hp : p / 8 < data.length) :
    (allBits (data.set (p / 8) (data[p / 8] ^^^ 1 <<< (7 - p % 8))))[i]? =
      if i = p then (allBits data)[i]?.map (!·) else (allBits data)[i]? := by
  unfold allBits
  rw [getElem?_ofBytes, getElem?_ofBytes, List.getElem?_set]
  by_cases h8 : p / 8 = i / 8
  · rw [if_pos h8, if_pos hp, ← h8, List.getElem?_eq_getElem hp]
    simp only [Option.map_some, Nat.testBit_xor, Nat.one_shiftLeft, Nat.testBit_two_pow]
    by_cases hip : i = p
    · rw [if_pos hip, hip]; simp
    · rw [if_neg hip, decide_eq_false (by omega), Bool.xor_false]
  · rw [if_neg h8, if_neg (by intro e; exact h8 (e ▸ rfl))]

theorem xorBits_spec : ∀ (n : Nat) (data : List Nat) (pos : Nat), (∀ b ∈ data, b < 256) → pos + n ≤ 8 * data.length →
    ∃ data', xorBits data pos n = .ok data' ∧ (∀ b ∈ data', b < 256) ∧ data'.length = data.length ∧
      ∀ i, (allBits data')[i]? =
        if pos ≤ i ∧ i < pos + n then (allBits data)[i]?.map (!·) else (allBits data)[i]? := by
  intro n
  induction n with
  | zero =>
    intro data pos hb _
    refine ⟨data, rfl, hb, rfl, fun i => ?_⟩
    rw [if_neg (by omega)]
  | succ n ih =>
    intro data pos hb hle
    have hi : pos / 8 < data.length := by omega
    have hb1 := mem_set_lt data (pos / 8) (data[pos / 8] ^^^ 1 <<< (7 - pos % 8)) hb
      (Nat.xor_lt_two_pow (hb _ (List.getElem_mem hi)) (toNat_shiftLeft_lt true (m := 7 - pos % 8) (n := 8) (by omega)))
    obtain ⟨data', h1, h2, h3, h4⟩ := ih _ (pos + 1) hb1 (by rw [List.length_set]; omega)
    refine ⟨data', ?_, h2, by rw [h3, List.length_set], fun i => ?_⟩
    · simp only [xorBits]
      rw [List.getElem?_eq_getElem hi]
      exact h1
    · rw [h4 i, getElem?_xor_bit data pos i hi]
      by_cases hip : i = pos
      · rw [if_neg (by omega), if_pos hip, if_pos (by omega)]
      · rw [if_neg hip]
        by_cases hin : pos + 1 ≤ i ∧ i < pos + 1 + n
        · rw [if_pos hin, if_pos (by omega)]
        · rw [if_neg hin, if_neg (by omega)]

theorem xorBits_slice (data data' : List Nat) (a b : Nat)
    (h : ∀ i, (allBits data')[i]? =
        if a ≤ i ∧ i < a + (b - a) then (allBits data)[i]?.map (!·) else (allBits data)[i]?) :
    slice (allBits data') a b = Bits.invert (slice (allBits data) a b) := by
  apply List.ext_getElem?
  intro i
  unfold slice Bits.invert
  rw [List.getElem?_map, List.getElem?_take, List.getElem?_take]
  by_cases hi : i < b - a
  · rw [if_pos hi, if_pos hi, List.getElem?_drop, List.getElem?_drop, h (a + i), if_pos (by omega)]
  · rw [if_neg hi, if_neg hi]; rfl

theorem ofBytes_take_bits (data : List Nat) (q r : Nat) (hq : q < data.length) (hr : r ≤ 8) :
    (ofBytes data).take (8 * q + r) = ofBytes (data.take q) ++ (bitsOfNat 8 data[q]).take r := by
  rw [List.take_add, ofBytes_take, ofBytes_drop, List.drop_eq_getElem_cons hq, ofBytes_cons,
    List.take_append_of_le_length (by simp; omega)]

/-- the first `8q + r` bits of a buffer, packed: `q` whole bytes and the top `r` bits of the next -/
theorem pack_take_ofBytes (data : List Nat) (q r : Nat) (hb : ∀ b ∈ data, b < 256) (hq : q < data.length) (h0 : 0 < r) (hr : r < 8) :
    pack ((ofBytes data).take (8 * q + r)) = data.take q ++ [data[q] &&& (255 - 255 >>> r)] := by
  have hl : ((bitsOfNat 8 data[q]).take r).length = r := by rw [List.length_take, bitsOfNat_length]; omega
  rw [ofBytes_take_bits data q r hq (by omega), pack_append _ _ (by rw [ofBytes_length]; omega),
    pack_ofBytes _ fun b hb' => hb b (List.mem_of_mem_take hb'),
    pack_group _ (by intro h; rw [h] at hl; exact absurd hl (by simp; omega)) (by omega), hl,
    and_high_group _ _ (hb _ (List.getElem_mem hq)) (by omega)]

theorem truncMask_eq (data0 : List Nat) (e : Nat) (hb : ∀ b ∈ data0, b < 256) (he : e ≤ 8 * data0.length) :
    truncMask data0 e = .ok (pack ((allBits data0).take e)) := by
  unfold truncMask allBits
  have hm8 := Nat.mod_lt e (by decide : 0 < 8)
  have hdm := Nat.div_add_mod e 8
  rw [upperBoundIndex_eq]
  generalize e / 8 = q at *
  generalize e % 8 = r at *
  subst hdm
  simp only
  by_cases hr : r = 0
  · subst hr
    rw [if_neg (by simp), Nat.add_zero (8 * q), ofBytes_take, pack_ofBytes _ fun b hb' => hb b (List.mem_of_mem_take hb'),
      show (8 * q + 7) / 8 = q by omega]
  · have hq : q < data0.length := by omega
    rw [if_pos (by simpa using hr), show (8 * q + r + 7) / 8 = q + 1 by omega, pack_take_ofBytes data0 q r hb hq (by omega) hm8,
      List.take_succ_eq_append_getElem hq, List.getElem?_append_right (by simp; omega), List.length_take,
      Nat.min_eq_left (by omega), Nat.sub_self]
    simp only [List.getElem?_cons_zero]
    rw [List.set_append_right _ _ (by simp; omega), List.length_take, Nat.min_eq_left (by omega), Nat.sub_self,
      List.set_cons_zero]
theorem resize_pack (l : List Bool) (U : Nat) (h : (pack l).length ≤ U) : resize (pack l) U = packTo U l := by
  unfold resize packTo
  split
  · rw [show U = (pack l).length by omega, List.take_length, Nat.sub_self, List.replicate_zero, List.append_nil]
  · rfl

/-- the bit loop of `append_bits_mut` on a packed buffer of `U` bytes -/
theorem orBits_pack (U : Nat) : ∀ (t acc : List Bool), acc.length + t.length ≤ 8 * U →
    orBits (packTo U acc) acc.length (bitNums t) = .ok (packTo U (acc ++ t), acc.length + t.length) := by
  intro t
  induction t with
  | nil => intro acc _; rw [List.append_nil]; rfl
  | cons x r ih =>
    intro acc hU
    rw [List.length_cons] at hU
    obtain ⟨d, hd, e⟩ := packTo_fill U acc [x] (acc.length / 8) (by omega) (by simp; omega) (by omega)
    have := ih (acc ++ [x]) (by rw [List.length_append, List.length_singleton]; omega)
    rw [List.length_append, List.length_singleton, List.append_assoc, Nat.add_assoc, Nat.add_comm 1, e,
      show beVal [x] = x.toNat by simp [beVal],
      show 8 * (acc.length / 8) + 8 - (acc.length + [x].length) = 7 - acc.length % 8 by
        rw [List.length_singleton]; omega] at this
    simp only [bitNums, List.map_cons, orBits, hd, Nat.mod_eq_of_lt (toNat_shiftLeft_lt x (n := 8) (m := 7 - acc.length % 8) (by omega))]
    exact this

theorem appendCore_eq (data0 : List Nat) (start e : Nat) (tv : View) (hb : ∀ b ∈ data0, b < 256)
    (hse : start ≤ e) (he : e ≤ 8 * data0.length) (wt : tv.WF) :
    appendCore data0 start e tv = .ok (pack ((allBits data0).take e ++ tv.bits), e + tv.len) := by
  have htl : tv.bits.length = tv.len := View.bits_length tv wt
  have hpre : ((allBits data0).take e).length = e := by
    rw [List.length_take, allBits_length]; exact Nat.min_eq_left he
  unfold appendCore
  rw [truncMask_eq data0 e hb he]
  simp only
  split
  · -- both byte aligned: the tail's bytes are appended
    rename_i hf
    simp only [View.isU8Slice, View.isBytestr, Bool.and_eq_true, beq_iff_eq] at hf
    obtain ⟨bs, hs1, hs2, hs3⟩ := View.slice_spec tv wt hf.2.1 hf.2.2
    rw [hs1, pack_append _ _ (by rw [hpre]; omega), hs2, pack_ofBytes _ hs3]
  · -- the buffer grows by zero bytes, into which the tail's bits are or-ed
    rw [View.bitsIter_spec tv wt, upperBoundIndex_eq]
    simp only
    have hl := length_pack ((allBits data0).take e ++ tv.bits)
    rw [List.length_append, hpre, htl] at hl
    have := orBits_pack ((e + tv.len + 7) / 8) tv.bits ((allBits data0).take e) (by rw [hpre, htl]; omega)
    rw [hpre, htl] at this
    rw [resize_pack _ _ (by rw [length_pack, hpre]; omega), this, ← hl, packTo_length]

theorem dataMut_unique (h : Heap) (s : Handle) (hrc : (h.buf s.buf).rc = 1) :
    dataMut h s = (h.set s.buf { h.buf s.buf with borrowed := false }, s) := by
  unfold dataMut
  simp [hrc]

theorem slice_take_append (A T : List Bool) (a e : Nat) (hae : a ≤ e) (he : e ≤ A.length) :
    slice (A.take e ++ T) a (e + T.length) = slice A a e ++ T := by
  have hl : (A.take e).length = e := by rw [List.length_take]; exact Nat.min_eq_left he
  unfold slice
  rw [List.drop_append_of_le_length (by omega), List.drop_take]
  exact List.take_of_length_le (by rw [List.length_append, List.length_take, List.length_drop]; omega)

/-- the two ways `detach` succeeds: the receiver as it is, or a fresh buffer while the receiver is dropped -/
theorem detach_cases {h h' : Heap} {s s' : Handle} (e : detach h s = .ok (h', s')) :
    (h' = h ∧ s' = s ∧ (h.buf s.buf).rc = 1 ∧ s.start = 0) ∨
      ∃ bytes n, h' = drop (h.alloc bytes false).1 s ∧ s' = ⟨0, n, h.next⟩ := by
  unfold detach at e
  split at e
  · rename_i hc
    simp only [Bool.and_eq_true, beq_iff_eq] at hc
    cases e; exact Or.inl ⟨rfl, rfl, hc⟩
  · split at e
    · cases e; exact Or.inr ⟨[], 0, rfl, rfl⟩
    · split at e
      · cases e; exact Or.inr ⟨_, _, rfl, rfl⟩
      · cases e
      · cases e

theorem detach_zero (h h' : Heap) (s s' : Handle) (e : detach h s = .ok (h', s')) : s'.start = 0 := by
  rcases detach_cases e with ⟨_, rfl, _, hz⟩ | ⟨_, _, _, rfl⟩
  · exact hz
  · rfl

/-- what an operation that consumes a handle into buffer `b` may do to the rest of the heap -/
structure Frame (h h' : Heap) (b : Nat) : Prop where
  next : h.next ≤ h'.next
  other : ∀ x, x < h.next → x ≠ b → h'.buf x = h.buf x
  shared : 2 ≤ (h.buf b).rc → (h'.buf b).bytes = (h.buf b).bytes ∧ (h'.buf b).rc = (h.buf b).rc - 1

theorem Frame.isolation {h h' : Heap} {b : Nat} (f : Frame h h' b) (u : Handle) (wu : WF h u)
    (hu : u.buf = b → 2 ≤ (h.buf b).rc) : WF h' u ∧ bits h' u = bits h u := by
  by_cases hub : u.buf = b
  · have h2 := hu hub
    obtain ⟨e1, e2⟩ := f.shared h2
    exact WF_transfer h h' u wu (by rw [hub]; exact e1) (by rw [hub, e2]; omega) f.next
  · have e := f.other u.buf wu.alloc hub
    exact WF_transfer h h' u wu (by rw [e]) (by rw [e]; exact wu.live) f.next

theorem Frame.incRc_decRc {h h' : Heap} {b : Nat} (f : Frame (h.incRc b) h' b) : Frame h (h'.decRc b) b := by
  refine ⟨f.next, fun x hx hxb => ?_, fun h2 => ?_⟩
  · rw [decRc_buf_ne _ _ _ hxb, f.other x hx hxb, incRc_buf_ne _ _ _ hxb]
  · obtain ⟨e1, e2⟩ := f.shared (by rw [incRc_rc_self]; omega)
    rw [decRc_bytes, decRc_rc_self, e1, e2, incRc_bytes, incRc_rc_self]
    exact ⟨rfl, rfl⟩

/-- what `detach`, `invert`, `append` and `insert` leave behind: the receiver's handle into buffer `b` is gone, the
    result `r` starts at bit 0 of a buffer nobody else holds — `b` itself, if the receiver was its only owner, or the
    fresh buffer `h.next` — and the rest of the heap is as `Frame` says -/
structure Consumed (h : Heap) (b : Nat) (h' : Heap) (r : Handle) : Prop where
  alloc : b < h.next
  wf : WF h' r
  unique : (h'.buf r.buf).rc = 1
  frame : Frame h h' b
  loc : (r.buf = b ∧ (h.buf b).rc = 1) ∨ r.buf = h.next
  zero : r.start = 0

/-- a handle other than the receiver survives, and does not live in the result's buffer -/
theorem Consumed.other {h h' : Heap} {b : Nat} {r : Handle} (c : Consumed h b h' r) (u : Handle) (wu : WF h u)
    (hu : u.buf = b → 2 ≤ (h.buf b).rc) : u.buf ≠ r.buf ∧ WF h' u ∧ bits h' u = bits h u := by
  refine ⟨fun e => ?_, c.frame.isolation u wu hu⟩
  rcases c.loc with ⟨e1, e2⟩ | e1
  · have := hu (e.trans e1); omega
  · exact Nat.ne_of_lt wu.alloc (e.trans e1)

/-- the result's owner writes `data` back after `data_mut` and ends at `e`: the change is confined to a buffer nobody
    else holds, so all of `Consumed` is kept -/
theorem Consumed.rewrite {h h1 : Heap} {b : Nat} {s : Handle} (c : Consumed h b h1 s) (data : List Nat) (e : Nat)
    (hbd : e ≤ 8 * data.length) (hb : ∀ x ∈ data, x < 256) :
    let H := setBytes (h1.set s.buf { h1.buf s.buf with borrowed := false }) s data
    bits H { s with end_ := e } = slice (allBits data) s.start e ∧ Consumed h b H { s with end_ := e } := by
  intro H
  have hself : H.buf s.buf = ⟨data, (h1.buf s.buf).rc, false⟩ := by
    show (setBytes _ s data).buf s.buf = _
    unfold setBytes
    rw [set_buf_self, set_buf_self]
  have hoth : ∀ x, x ≠ s.buf → H.buf x = h1.buf x := fun x hx => by
    show (setBytes _ s data).buf x = _
    unfold setBytes
    rw [set_buf_ne _ _ _ hx, set_buf_ne _ _ _ hx]
  have hlt := c.alloc
  refine ⟨?_, hlt, ⟨⟨?_, ?_, ?_⟩, c.wf.alloc, ?_⟩, ?_, ⟨c.frame.next, fun x hx hxb => ?_, fun h2 => ?_⟩, c.loc, c.zero⟩
  · show slice (allBits (H.buf s.buf).bytes) s.start e = _
    rw [hself]
  · show s.start ≤ e
    rw [c.zero]; exact Nat.zero_le _
  · show e ≤ 8 * (H.buf s.buf).bytes.length
    rw [hself]; exact hbd
  · show ∀ x ∈ (H.buf s.buf).bytes, x < 256
    rw [hself]; exact hb
  · show 1 ≤ (H.buf s.buf).rc
    rw [hself]; exact Nat.le_of_eq c.unique.symm
  · show (H.buf s.buf).rc = 1
    rw [hself]; exact c.unique
  · rw [hoth x (by rcases c.loc with ⟨e, _⟩ | e <;> omega), c.frame.other x hx hxb]
  · rw [hoth b (by rcases c.loc with ⟨_, e⟩ | e <;> omega)]
    exact c.frame.shared h2

theorem Consumed.appendBitsMut {h h1 : Heap} {b : Nat} {s : Handle} (c : Consumed h b h1 s) (t : Handle) (wt : WF h1 t)
    (hne : t.buf ≠ s.buf) :
    ∃ h' r, appendBitsMut h1 s t = .ok (h', r) ∧ bits h' r = bits h1 s ++ bits h1 t ∧ Consumed h b h' r := by
  have ws := c.wf
  unfold Bitstr.appendBitsMut
  rw [dataMut_unique h1 s c.unique]
  simp only
  have hv : (h1.set s.buf { h1.buf s.buf with borrowed := false }).view t = h1.view t := by
    unfold Heap.view; rw [set_buf_ne _ _ _ hne]
  rw [hv, set_buf_self, appendCore_eq (h1.buf s.buf).bytes s.start s.end_ (h1.view t) ws.view.bytes ws.view.le
      ws.view.bound wt.view]
  have htl : (h1.view t).bits.length = (h1.view t).len := View.bits_length _ wt.view
  have hA : s.end_ ≤ (allBits (h1.buf s.buf).bytes).length := by rw [allBits_length]; exact ws.view.bound
  have hlen : s.end_ + (h1.view t).len = ((allBits (h1.buf s.buf).bytes).take s.end_ ++ (h1.view t).bits).length := by
    rw [List.length_append, List.length_take, Nat.min_eq_left hA, htl]
  obtain ⟨br, c'⟩ := c.rewrite (pack ((allBits (h1.buf s.buf).bytes).take s.end_ ++ (h1.view t).bits))
    (s.end_ + (h1.view t).len) (by rw [length_pack, ← hlen]; omega) (pack_lt _)
  refine ⟨_, _, rfl, ?_, c'⟩
  rw [br, allBits, slice_pack _ _ _ (Nat.le_of_eq hlen), ← htl, slice_take_append _ _ s.start s.end_ ws.view.le hA]
  rfl

theorem detach_consumed (h : Heap) (s : Handle) (wf : WF h s) :
    ∃ h' s', detach h s = .ok (h', s') ∧ bits h' s' = bits h s ∧ Consumed h s.buf h' s' := by
  rw [detach_eq h s wf]
  have hne : h.next ≠ s.buf := Nat.ne_of_gt wf.alloc
  split
  · rename_i hc
    simp only [Bool.and_eq_true, beq_iff_eq] at hc
    exact ⟨h, s, rfl, rfl, wf.alloc, wf, hc.1, ⟨Nat.le_refl _, fun _ _ _ => rfl, fun h2 => by omega⟩, .inl ⟨rfl, hc.1⟩, hc.2⟩
  · obtain ⟨w, b⟩ := alloc_pack h (bits h s)
    refine ⟨_, _, rfl, by rw [drop, bits_decRc]; exact b, wf.alloc, WF_decRc_other _ _ _ w hne, ?_,
      ⟨Nat.le_succ _, fun x hx hxb => ?_, fun _ => ?_⟩, .inr rfl, rfl⟩
    · rw [drop, decRc_buf_ne _ _ _ hne, alloc_buf_self]
    · rw [drop, decRc_buf_ne _ _ _ hxb, alloc_buf_ne _ _ _ (Nat.ne_of_lt hx)]
    · rw [drop, decRc_bytes, decRc_rc_self, alloc_buf_ne _ _ _ (Ne.symm hne)]
      exact ⟨rfl, rfl⟩

theorem detach_frame (h : Heap) (s : Handle) (wf : WF h s) :
    ∃ h' s', detach h s = .ok (h', s') ∧ WF h' s' ∧ bits h' s' = bits h s ∧ (h'.buf s'.buf).rc = 1 ∧
      (s'.buf = s.buf ∨ s'.buf = h.next) ∧ h'.next ≤ h.next + 1 ∧
      (s'.buf = s.buf → h' = h ∧ s' = s) ∧
      (s'.buf = h.next → ∀ x, x ≠ h.next → h'.buf x = (h.decRc s.buf).buf x) ∧ h.next ≤ h'.next := by
  obtain ⟨h', s', hd, hb, c⟩ := detach_consumed h s wf
  refine ⟨h', s', hd, c.wf, hb, c.unique, ?_⟩
  have hne : h.next ≠ s.buf := Nat.ne_of_gt wf.alloc
  rcases detach_cases hd with ⟨rfl, rfl, _, _⟩ | ⟨bytes, n, rfl, rfl⟩
  · exact ⟨Or.inl rfl, Nat.le_succ _, fun _ => ⟨rfl, rfl⟩, fun e => absurd e.symm hne, Nat.le_refl _⟩
  · refine ⟨Or.inr rfl, Nat.le_refl _, fun e => absurd e hne, fun _ x hx => ?_, Nat.le_succ _⟩
    unfold drop Heap.decRc
    by_cases hxs : x = s.buf
    · subst hxs; rw [set_buf_self, set_buf_self, alloc_buf_ne _ _ _ hx]
    · rw [set_buf_ne _ _ _ hxs, set_buf_ne _ _ _ hxs, alloc_buf_ne _ _ _ hx]

theorem append_strong (h : Heap) (s t : Handle) (ws : WF h s) (wt : WF h t)
    (ht : t.buf = s.buf → 2 ≤ (h.buf s.buf).rc) :
    ∃ h' r, append h s t = .ok (h', r) ∧ bits h' r = bits h s ++ bits h t ∧ Consumed h s.buf h' r := by
  obtain ⟨h1, s1, hd, hb1, c⟩ := detach_consumed h s ws
  obtain ⟨hts, wt1, bt1⟩ := c.other t wt ht
  obtain ⟨h', r, ha, hbr, c'⟩ := c.appendBitsMut t wt1 hts
  unfold append
  rw [hd]
  exact ⟨h', r, ha, by rw [hbr, hb1, bt1], c'⟩

theorem append_spec (h : Heap) (s t : Handle) (ws : WF h s) (wt : WF h t)
    (ht : t.buf = s.buf → 2 ≤ (h.buf s.buf).rc) :
    ∃ h' r, append h s t = .ok (h', r) ∧ WF h' r ∧ bits h' r = bits h s ++ bits h t ∧
      (h'.buf r.buf).rc = 1 ∧ Frame h h' s.buf :=
  let ⟨h', r, e, b, c⟩ := append_strong h s t ws wt ht
  ⟨h', r, e, c.wf, b, c.unique, c.frame⟩

theorem invert_strong (h : Heap) (s : Handle) (ws : WF h s) :
    ∃ h' r, invert h s = .ok (h', r) ∧ bits h' r = Bits.invert (bits h s) ∧ Consumed h s.buf h' r := by
  obtain ⟨h1, s1, hd, hb1, c⟩ := detach_consumed h s ws
  unfold invert
  rw [hd]
  simp only
  rw [dataMut_unique h1 s1 c.unique]
  simp only
  rw [set_buf_self]
  have wle : s1.start ≤ s1.end_ := c.wf.view.le
  have wbd : s1.end_ ≤ 8 * (h1.buf s1.buf).bytes.length := c.wf.view.bound
  obtain ⟨data', hx, hb', hl', hpt⟩ := xorBits_spec (s1.end_ - s1.start) (h1.buf s1.buf).bytes s1.start
    c.wf.view.bytes (by omega)
  rw [hx]
  simp only
  obtain ⟨br, c'⟩ := c.rewrite data' s1.end_ (by rw [hl']; exact wbd) hb'
  refine ⟨_, _, rfl, ?_, c'⟩
  rw [br, ← hb1, bits_eq]
  exact xorBits_slice _ _ _ _ hpt

theorem insert_invalid (h : Heap) (self t : Handle) (k : Nat)
    (hk : ¬(self.start + k ≤ self.end_ ∧ self.start + k ≤ usizeMax)) :
    insert h self k t = .ok (drop h self, none) := by
  unfold insert
  rw [splitAt_eq, if_neg (fun e => hk ⟨e.2, e.1⟩)]

/-- the clones `split_at` made are dropped at the end -/
theorem Consumed.incRc_decRc {h h' : Heap} {b : Nat} {r : Handle} (c : Consumed (h.incRc b) b h' r) (hl : 1 ≤ (h.buf b).rc) :
    Consumed h b (h'.decRc b) r := by
  have hrb : r.buf ≠ b := by
    rcases c.loc with ⟨_, e⟩ | e
    · rw [incRc_rc_self] at e; omega
    · exact e ▸ Nat.ne_of_gt c.alloc
  refine ⟨c.alloc, WF_decRc_other _ _ _ c.wf hrb, by rw [decRc_buf_ne _ _ _ hrb]; exact c.unique, c.frame.incRc_decRc,
    .inr (c.loc.resolve_left fun e => hrb e.1), c.zero⟩

/-- `split_at` clones the receiver twice; the left half is detached into a fresh buffer (the count is ≥ 3), the
    inserted value and the right half are appended to it, and the two clones are dropped at the end -/
theorem insert_strong (h : Heap) (self t : Handle) (k : Nat) (ws : WF h self) (wt : WF h t)
    (hk : self.start + k ≤ self.end_) (hu : self.start + k ≤ usizeMax) :
    ∃ h' r, insert h self k t = .ok (h', some r) ∧
      bits h' r = (bits h self).take k ++ bits h t ++ (bits h self).drop k ∧ Consumed h self.buf h' r := by
  unfold insert
  rw [splitAt_eq, if_pos ⟨hu, hk⟩]
  simp only
  have hlive := ws.live
  obtain ⟨wl1, bl1⟩ := incRc_handle self.buf (incRc_handle self.buf (take_handle ws hk))
  obtain ⟨wr1, br1⟩ := incRc_handle self.buf (incRc_handle self.buf (drop_handle ws rfl hk))
  obtain ⟨wt1, bt1⟩ := incRc_handle self.buf (incRc_handle self.buf ⟨wt, rfl⟩)
  have hsh : 2 ≤ (((h.incRc self.buf).incRc self.buf).buf self.buf).rc := by
    rw [incRc_rc_self, incRc_rc_self]; omega
  obtain ⟨h2, l2, hd, bl2, c⟩ := detach_consumed _ _ wl1
  rw [hd]
  simp only
  obtain ⟨htl, wt2, bt2⟩ := c.other t wt1 (fun _ => hsh)
  obtain ⟨h3, l3, ha3, bl3, c3⟩ := c.appendBitsMut t wt2 htl
  rw [ha3]
  simp only
  obtain ⟨hrl, wr3, br3⟩ := c3.other _ wr1 (fun _ => hsh)
  obtain ⟨h4, l4, ha4, bl4, c4⟩ := c3.appendBitsMut _ wr3 hrl
  rw [ha4]
  simp only
  refine ⟨_, _, rfl, ?_, (c4.incRc_decRc (by rw [incRc_rc_self]; omega)).incRc_decRc hlive⟩
  unfold drop
  rw [bits_decRc, bits_decRc, bl4, bl3, br3, bl2, bt2, bl1, br1, bt1]

end Xeh.Bitstr
