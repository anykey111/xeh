/-
`eval src` is `compile src` followed by `run`.  Reading the source is the same in both modes (Proofs/SessionBase.lean) and
gives the base context back unchanged (`base_kept`).  What differs is who runs the new code: `eval`'s own context, opened
at the current stack heights, or — after `compile` has closed its context — the interpreter's resting context.  For an
interpreter at rest the two agree on everything the VM reads (Proofs/VMCtx.lean), and the VM leaves the rest of a
context alone (`run_sealed`).
-/
import XehModel.Proofs.SessionBase
import XehModel.Proofs.SessionUnwind
import XehModel.Proofs.VMCtx

namespace Xeh.Session
open Xeh Xeh.Mach Xeh.Compile Xeh.Session.Sess

/-- an interpreter between sources -/
structure AtRest (s : Sess) : Prop where
  mode : s.m.ctx.mode = .eval
  rs : s.m.rs.length = s.m.ctx.rsLen
  ls : s.m.loops.length = s.m.ctx.lsLen
  ss : s.m.special.length = s.m.ctx.ssPtr
  ip : s.m.ctx.ip = s.m.code.length

def compileThenRun (fuel : Nat) (toks : List Tok) (s : Sess) : BRes :=
  match s.buildSource fuel .compile toks with
  | .done s1 =>
    match s1.runS fuel with
    | .ok s2 => .done s2
    | .err e s2 => .failed e s2
    | .panic p s2 => .panic p s2
    | .unsupported u => .unsupported u
    | .timeout => .timeout
  | r => r

def SameC (x y : Sess) : Prop := ({ x with m := normC x.m } : Sess) = { y with m := normC y.m }

/-- after a failed run the sessions agree up to `SameC` only; of two panics only the messages are compared -/
def EvalR : BRes → BRes → Prop
  | .done x, .done y => x = y
  | .rejected e x, .rejected e' y => e = e' ∧ x = y
  | .failed e x, .failed e' y => e = e' ∧ SameC x y
  | .panic p _, .panic p' _ => p = p'
  | .unsupported u, .unsupported u' => u = u'
  | .timeout, .timeout => True
  | _, _ => False

/-- reading a source gives the base context back as it was (all of it but `fsLen`, which the reader looks at) -/
theorem base_kept {s s2 : Sess} (hmode : s.m.ctx.mode ≠ .metaEval) (fuel : Nat) (toks : List Tok)
    (h : s.build1 fuel toks = .ok s2) (hlen : s2.nested.length = s.nested.length) : s2.m.ctx = swp s.m.ctx s2.m.ctx := by
  have h0 : RB s.m.ctx s.nested.length s { s with m := { s.m with ctx := swp s.m.ctx s.m.ctx } } := RB.cur s rfl hmode
  have e0 : ({ s with m := { s.m with ctx := swp s.m.ctx s.m.ctx } } : Sess) = s := rfl
  rw [e0] at h0
  have hb := rb_build1 h0 hmode fuel toks
  rw [h] at hb
  rcases RB.inv hb with ⟨_, _, e⟩ | ⟨pre, E, bot, h1, h2, _, _⟩
  · have := congrArg (fun x : Sess => x.m.ctx) e
    exact this
  · rw [h1] at hlen
    simp only [List.length_append, List.length_cons] at hlen
    omega

/-- `run` on two machines that agree up to the context's bookkeeping: the same kind of answer, machines that agree in the
    same way; for `ok` the two run equations are carried along, `run_sealed` is applied to them afterwards -/
theorem runS_normC (x y : Sess) (hm : normC x.m = normC y.m) (fuel : Nat) :
    SRes.Rel
      (fun x' y' => normC x'.m = normC y'.m ∧ x' = { x with m := x'.m } ∧ y' = { y with m := y'.m } ∧
        ∃ o, Mach.run nativeProg fuel x.m = some (o, x'.m) ∧ Mach.run nativeProg fuel y.m = some (o, y'.m))
      (fun x' y' => normC x'.m = normC y'.m ∧ x' = { x with m := x'.m } ∧ y' = { y with m := y'.m })
      (x.runS fuel) (y.runS fuel) := by
  have hr := NormC.run_sim nativeProg fuel x.m y.m hm
  refine runS_rel x y fuel ?_ (fun o a o' b e1 e2 => ?_)
  · rcases hx : Mach.run nativeProg fuel x.m with _ | ra <;> rcases hy : Mach.run nativeProg fuel y.m with _ | rb <;>
      rw [hx, hy] at hr <;> first | exact hr.elim | simp
  · rw [e1, e2] at hr
    obtain ⟨g1, g2⟩ := hr
    simp only at g1 g2
    subst g1
    exact ⟨rfl, ⟨g2, rfl, rfl, o, e1, e2⟩, g2, rfl, rfl⟩

/-- two machines equal up to `normC`, the second with the marks of `c`, and `c` agreeing with the first on what the VM reads
    (`hv`): the second is the first with `c` for context, at the first's instruction pointer -/
theorem equalize (ma mb : Mach) (c : Ctx) (hn : normC ma = normC mb) (hb : mb.ctx.marks = c.marks)
    (hv : c.ssPtr = ma.ctx.ssPtr ∧ c.mode = ma.ctx.mode ∧ c.dsLen = ma.ctx.dsLen ∧ c.rsLen = ma.ctx.rsLen ∧ c.lsLen = ma.ctx.lsLen) :
    mb = { ma with ctx := { c with ip := ma.ctx.ip } } := by
  apply NormC.eq_of_normC
  · rw [← hn]
    exact (NormC.of_ctx ma { c with ip := ma.ctx.ip } ⟨rfl, hv.1, hv.2.1, hv.2.2.1, hv.2.2.2.1, hv.2.2.2.2⟩).symm
  · have e := hb
    rcases mb with ⟨c2, hp2, ds2, rs2, lp2, sp2, ⟨q12, q22, q32, q42, q52, q62, q72, q82, q92, q102⟩, mt2, il2, sl2, hl2, lg2, o2, st2, di2⟩
    rcases c with ⟨q1, q2, q3, q4, q5, q6, q7, q8, q9, q10⟩
    simp only [Ctx.marks, Ctx.mk.injEq] at e
    simp only
    simp_all

/-- after a failed run the sessions differ in the bookkeeping fields of the current context: `eval` leaves the failed
    source's own context current, as `context_close` does not restore on failure -/
theorem eval_eq_compile_run (fuel : Nat) (toks : List Tok) (s : Sess) (idle : Idle s) (rest : AtRest s) :
    EvalR (s.buildSource fuel .eval toks) (compileThenRun fuel toks s) := by
  have hE0 : (s.contextOpen .eval).m.ctx.mode ≠ .metaEval := by simp [Sess.contextOpen]
  have hC0 : (s.contextOpen .compile).m.ctx.mode ≠ .metaEval := by simp [Sess.contextOpen]
  have hC : s.contextOpen .compile =
      { (s.contextOpen .eval) with m := { (s.contextOpen .eval).m with ctx := swp (s.contextOpen .compile).m.ctx (s.contextOpen .eval).m.ctx } } := by
    simp [Sess.contextOpen, swp]
  have h0 : RB (s.contextOpen .compile).m.ctx (s.nested.length + 1) (s.contextOpen .eval) (s.contextOpen .compile) := by
    have := RB.cur (c' := (s.contextOpen .compile).m.ctx) (k := s.nested.length + 1) (s.contextOpen .eval)
      (by simp [Sess.contextOpen]) hE0
    rw [← hC] at this
    exact this
  have hb := rb_build1 h0 hC0 fuel toks
  have hext := sok_build1 (ext_open idle .eval (by decide)) (by decide) fuel toks
  unfold compileThenRun Sess.buildSource
  simp only
  cases hE : (s.contextOpen .eval).build1 fuel toks with
  | err e s2 =>
    rw [hE] at hb
    obtain ⟨t2, hCb, h⟩ := hb.of_err
    rw [hCb]
    refine ⟨rfl, ?_⟩
    rcases h with h | h
    · exact unwind_rb h (by omega)
    · rw [h]
  | panic p s2 =>
    rw [hE] at hb
    obtain ⟨t2, hCb, _⟩ := hb.of_panic
    rw [hCb]
    exact rfl
  | unsupported u => rw [hE] at hb; rw [hb.of_unsupported]; exact rfl
  | timeout => rw [hE] at hb; rw [hb.of_timeout]; trivial
  | ok s2 =>
    rw [hE] at hb hext
    obtain ⟨t2, hCb, hb⟩ := hb.of_ok
    rw [hCb]
    · have e : Ext .eval s s2 := hext
      obtain ⟨hmode2, hnest2⟩ := build1_ok_base fuel toks (by decide) hE e
      have hkept := base_kept hE0 fuel toks hE (by rw [hnest2]; simp [Sess.contextOpen])
      have hv : s.m.ctx.ip = s2.m.ctx.ip ∧ s.m.ctx.ssPtr = s2.m.ctx.ssPtr ∧ s.m.ctx.mode = s2.m.ctx.mode ∧
          s.m.ctx.dsLen = s2.m.ctx.dsLen ∧ s.m.ctx.rsLen = s2.m.ctx.rsLen ∧ s.m.ctx.lsLen = s2.m.ctx.lsLen := by
        rw [hkept]
        simp only [swp, Sess.contextOpen, rest.mode, if_true]
        exact ⟨rest.ip, rest.ss.symm, trivial, trivial, rest.rs.symm, rest.ls.symm⟩
      have ht2 : t2 = { s2 with m := { s2.m with ctx := swp (s.contextOpen .compile).m.ctx s2.m.ctx } } := by
        rcases RB.inv hb with ⟨_, _, e⟩ | ⟨pre, E, bot, h1, h2, _, _⟩
        · exact e
        · rw [hnest2] at h1
          have := congrArg List.length h1
          simp only [List.length_append, List.length_cons] at this
          omega
      subst ht2
      -- both sides forget what the build logged (`forget_build_log`); the machine from here on is `M`
      have e1 : forgetBuildLog s.m { s2.m with ctx := swp (s.contextOpen .compile).m.ctx s2.m.ctx } =
          { forgetBuildLog s.m s2.m with ctx := swp (s.contextOpen .compile).m.ctx s2.m.ctx } := rfl
      simp only [e1]
      have hMc : (forgetBuildLog s.m s2.m).ctx = s2.m.ctx := rfl
      have wX : WF (forgetBuildLog s.m s2.m) := ⟨e.wf.ds, e.wf.rs, e.wf.ls, e.wf.ss⟩
      rw [← hMc] at hv hmode2
      generalize forgetBuildLog s.m s2.m = M at hv hmode2 wX ⊢
      have hmC : (swp (s.contextOpen .compile).m.ctx s2.m.ctx).mode = .compile := by simp [swp, Sess.contextOpen]
      simp only [Sess.contextClose, hnest2, hmode2, hmC, rest.mode, if_true]
      generalize hu : List.drop (s2.constUndo.length - s.constUndo.length) s2.constUndo = u
      have hn : normC ({ s2 with m := M, nested := s.nested, constUndo := u } : Sess).m =
          normC ({ s2 with m := { M with ctx := s.m.ctx }, nested := s.nested, constUndo := u } : Sess).m :=
        (NormC.of_ctx M s.m.ctx hv).symm
      have hr := runS_normC _ _ hn fuel
      have wY : WF { M with ctx := s.m.ctx } := by
        obtain ⟨_, v2, _, v4, v5, v6⟩ := hv
        exact ⟨by simp only; rw [v4]; exact wX.ds, by simp only; rw [v5]; exact wX.rs, by simp only; rw [v6]; exact wX.ls,
          by simp only; rw [v2]; exact wX.ss⟩
      cases hx : Sess.runS fuel { s2 with m := M, nested := s.nested, constUndo := u } with
      | ok x' =>
        rw [hx] at hr
        obtain ⟨y', hy, g1, g2, g3, o, g4, g5⟩ := hr.of_ok
        rw [hy]
        simp only [EvalR]
        have mx := (run_sealed nativeProg fuel _ (_, _) wX g4).below.1
        have my := (run_sealed nativeProg fuel _ (_, _) wY g5).below.1
        simp only at mx my
        have hv' : s.m.ctx.ssPtr = x'.m.ctx.ssPtr ∧ s.m.ctx.mode = x'.m.ctx.mode ∧ s.m.ctx.dsLen = x'.m.ctx.dsLen ∧
            s.m.ctx.rsLen = x'.m.ctx.rsLen ∧ s.m.ctx.lsLen = x'.m.ctx.lsLen := by
          have f := fun (g : Ctx → Nat) (hg : ∀ c : Ctx, g c = g c.marks) => by
            have : g x'.m.ctx = g M.ctx := by rw [hg x'.m.ctx, hg M.ctx, mx]
            exact this
          have fm : x'.m.ctx.mode = M.ctx.mode := by
            have := congrArg Ctx.mode mx; simpa [Ctx.marks] using this
          obtain ⟨_, v2, v3, v4, v5, v6⟩ := hv
          exact ⟨by rw [f Ctx.ssPtr (fun _ => rfl)]; exact v2, by rw [fm]; exact v3, by rw [f Ctx.dsLen (fun _ => rfl)]; exact v4,
            by rw [f Ctx.rsLen (fun _ => rfl)]; exact v5, by rw [f Ctx.lsLen (fun _ => rfl)]; exact v6⟩
        -- each run keeps the marks of the context it started in, so the results differ by that context only, and
        -- `context_close` on the eval side puts `s.m.ctx` back with the new instruction pointer
        have key := equalize x'.m y'.m s.m.ctx g1 my hv'
        rw [g3, key, g2]
        simp only [rest.mode]
      | err ex x' =>
        rw [hx] at hr
        obtain ⟨y', hy, g1, g2, g3⟩ := hr.of_err
        rw [hy]
        refine ⟨rfl, ?_⟩
        simp only [SameC]
        rw [g2, g3]
        simp only [g1]
      | panic px x' =>
        rw [hx] at hr
        obtain ⟨y', hy, _⟩ := hr.of_panic
        rw [hy]
        exact rfl
      | unsupported ux => rw [hx] at hr; rw [hr.of_unsupported]; exact rfl
      | timeout => rw [hx] at hr; rw [hr.of_timeout]; trivial

end Xeh.Session
