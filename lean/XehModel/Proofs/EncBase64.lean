import XehModel.Proofs.EncAlpha

namespace Xeh.Enc

theorem b64_ok : AlphaOk b64Alphabet b64Val 64 := ⟨by decide +kernel, by decide⟩

theorem b64Val_inv : ∀ c, c < 256 → ∀ d, b64Val c = some d → b64Alphabet[d]? = some c := by
  decide +kernel

theorem b64Encode_append (c rest : List Nat) (hc : c.length = 3) :
    b64Encode (c ++ rest) =
      (toDigits 64 4 (ofDigits 256 c)).map (alphaAt b64Alphabet) ++ b64Encode rest := by
  match c, hc with
  | [_, _, _], _ => exact b64Encode.eq_1 ..

theorem b64Encode_eq_nil (bs : List Nat) : b64Encode bs = [] ↔ bs = [] := by
  rw [← List.length_eq_zero_iff, ← List.length_eq_zero_iff]
  fun_cases b64Encode bs <;> simp [toDigits_length]

theorem b64_roundtrip_fn (bs : List Nat) (h : ∀ x ∈ bs, x < 256) : b64Decode (b64Encode bs) = some bs := by
  have hval : ∀ ds : List Nat, (∀ d ∈ ds, d < 64) → ∀ d ∈ ds,
      b64Val (alphaAt b64Alphabet d) = some d ∧ alphaAt b64Alphabet d ≠ 61 :=
    fun ds hds d hd => ⟨b64_ok.val (hds d hd), fun h => by cases b64_ok.val_of_eq (hds d hd) h⟩
  unfold b64Decode
  induction bs using chunk_induction 3 (by omega) with
  | nil => rfl
  | step c rest hc ih =>
    obtain ⟨hbc, hbr⟩ := List.forall_mem_append.1 h
    have hre := regroup 256 64 3 4 c hc hbc (by decide)
    have hlt := hval _ (toDigits_lt 64 4 (ofDigits 256 c) (by decide))
    obtain ⟨d0, d1, d2, d3, hd⟩ : ∃ d0 d1 d2 d3, toDigits 64 4 (ofDigits 256 c) = [d0, d1, d2, d3] :=
      ⟨_, _, _, _, rfl⟩
    rw [hd] at hre hlt
    rw [b64Encode_append c rest hc, hd]
    by_cases hrest : rest = []
    · subst hrest
      simp [b64Encode, b64DecQuads, b64Final, hlt, hre]
    · simp [b64DecQuads, b64Encode_eq_nil, hrest, vals, hlt, ih hbr, hre]
  | tail t h0 ht =>
    match t, h0, ht with
    | [a], _, _ =>
      have ha : a < 256 := h a (by simp)
      have hn := ofDigits_toDigits 64 2 (a * 16) (by omega)
      have hlt := hval _ (toDigits_lt 64 2 (a * 16) (by decide))
      obtain ⟨d0, d1, hd⟩ : ∃ d0 d1, toDigits 64 2 (a * 16) = [d0, d1] := ⟨_, _, rfl⟩
      rw [hd] at hn hlt
      have : d0 * 64 + d1 = a * 16 := by simp [ofDigits, ofDigitsLE] at hn; omega
      simp [b64Encode, hd, b64DecQuads, b64Final, hlt, this]
    | [a, b], _, _ =>
      have hab : ∀ x ∈ [a, b], x < 256 := h
      have hlt := hval _ (toDigits_lt 64 3 (ofDigits 256 [a, b] * 4) (by decide))
      have hn := ofDigits_toDigits 64 3 (ofDigits 256 [a, b] * 4)
        (by have : _ < 256 ^ 2 := ofDigits_lt 256 [a, b] hab; omega)
      have hback : toDigits 256 2 (ofDigits 256 [a, b]) = [a, b] := toDigits_ofDigits 256 [a, b] hab
      obtain ⟨d0, d1, d2, hd⟩ : ∃ d0 d1 d2, toDigits 64 3 (ofDigits 256 [a, b] * 4) = [d0, d1, d2] :=
        ⟨_, _, _, rfl⟩
      rw [hd] at hn hlt
      simp [b64Encode, hd, b64DecQuads, b64Final, hlt, hn, hback]

theorem b64Encode_ascii (bs : List Nat) : ∀ x ∈ b64Encode bs, x < 128 := by
  have hd := fun k n => b64_ok.toDigits_ascii (by decide) k n
  induction bs using chunk_induction 3 (by omega) with
  | nil => simp [b64Encode]
  | tail t h0 ht =>
    match t, h0, ht with
    | [a], _, _ => exact List.forall_mem_append.2 ⟨hd _ _, by decide⟩
    | [a, b], _, _ => exact List.forall_mem_append.2 ⟨hd _ _, by decide⟩
  | step c rest hc ih =>
    rw [b64Encode_append c rest hc]
    exact List.forall_mem_append.2 ⟨hd _ _, ih⟩

end Xeh.Enc
