/-
C08, native-word layer: the programs of the word table have no reachable `panic` node, except the printing words,
whose only one is the marker of a gap of the model.
-/
import XehModel.Proofs.VMNoPanic
import XehModel.Model.NativeTable
import XehModel.Proofs.EncWords

namespace Xeh.Mach
open Prog

theorem PanicOnly.ofOutcome {P : String → Prop} {α : Type} (o : Outcome α) (k : α → Prog) (ho : NP o)
    (hk : ∀ a, PanicOnly P (k a)) : PanicOnly P (Prog.ofOutcome o k) := by
  unfold Prog.ofOutcome
  split
  · exact hk _
  · exact .fail _
  · rename_i s; exact absurd rfl (ho s)

theorem PanicOnly.pushAll {P : String → Prop} (cs : List Cell) (k : Prog) (hk : PanicOnly P k) : PanicOnly P (Prog.pushAll cs k) := by
  induction cs with
  | nil => exact hk
  | cons c cs ih => exact .push _ _ ih

theorem PanicOnly.popN {P : String → Prop} (n : Nat) (k : Prog) (hk : PanicOnly P k) : PanicOnly P (Prog.popN n k) := by
  induction n with
  | zero => exact hk
  | succ n ih => exact .pop _ fun _ => ih

open Enc in
theorem concatElem_np : ∀ c : Cell, NP (concatElem c) := concatElem_no_panic
theorem bitstrConcat_np (c : Cell) : NP (Enc.bitstrConcat c) := Enc.bitstrConcat_no_panic c

local macro "pf_step" : tactic => `(tactic| with_reducible first
  | split
  | (constructor <;> intros)
  | apply PanicOnly.pushAll
  | apply PanicOnly.popN
  | (refine PanicOnly.ofOutcome _ _ ?_ (fun _ => ?_))
  | exact NP_ok _ | exact NP_err _ | exact condTrue_np _ | exact toIsize_np _ | exact toBool_np _
  | exact toMap_np _ | exact toVec_np _ | exact toStr_np _ | exact toUsize_np _
  | exact toXint_np _ | exact toReal_np _ | exact bitstrConcat_np _)

local macro "pf" : tactic => `(tactic| repeat' pf_step)

theorem pf_wordCounter (n : Nat) : PanicFree (wordCounter n) := by unfold wordCounter; pf
theorem pf_vecBuilderBegin : PanicFree vecBuilderBegin := by unfold vecBuilderBegin; pf
theorem pf_foreachRange (n : Nat) : PanicFree (foreachRange n) := by unfold foreachRange; pf

def AllPF (t : List (String × Prog)) : Prop := ∀ e ∈ t, PanicFree e.2

theorem AllPF.nil : AllPF [] := fun _ h => by cases h
theorem AllPF.cons {n : String} {p : Prog} {t : List (String × Prog)} (hp : PanicFree p) (ht : AllPF t) :
    AllPF ((n, p) :: t) := by
  intro e he
  rcases List.mem_cons.mp he with rfl | h
  · exact hp
  · exact ht e h
theorem AllPF.append (a b : List (String × Prog)) (ha : AllPF a) (hb : AllPF b) : AllPF (a ++ b) := by
  intro e he
  rcases List.mem_append.mp he with h | h
  · exact ha e h
  · exact hb e h

theorem pf_coreTable : AllPF coreTable :=
  .cons (.dup _ .done) <| .cons (.pop _ fun _ => .done) <| .cons (.swap _ .done) <| .cons (.rot _ .done) <|
  .cons (.over _ .done) <| .cons (by unfold wordDepth; pf) <| .cons (by unfold wordNilQ; pf) <|
  .cons (by unfold wordEqual; pf) <| .cons (by unfold wordAssert; pf) <| .cons (by unfold wordAssertEq; pf) <|
  .cons (by unfold wordError; pf) <| .cons (by unfold wordExit; pf) <| .cons (pf_wordCounter 0) <|
  .cons (pf_wordCounter 1) <| .cons (pf_wordCounter 2) <| .cons pf_vecBuilderBegin <|
  .cons (by unfold vecBuilderEnd collectTillPtr; pf) <| .cons pf_vecBuilderBegin <|
  .cons (by unfold mapBuilderEnd mapCollect; pf) <| .cons (by unfold tagsEnd mapCollect wordWithTags; pf) <|
  .cons (by unfold wordWithTags; pf) <| .cons (by unfold foreachInit; pf; all_goals exact pf_foreachRange _) <|
  .cons (by unfold foreachNext; pf) .nil

theorem pf_arithOpsReal (fi : Int → Int → Int) (fr : UInt64 → UInt64 → UInt64) : PanicFree (arithOpsReal fi fr) := by
  unfold arithOpsReal; pf
theorem pf_arithOpsInt (fi : Int → Int → Int) : PanicFree (arithOpsInt fi) := by unfold arithOpsInt; pf
theorem pf_wordCmp (t : Ordering → Bool) : PanicFree (wordCmp t) := by unfold wordCmp; pf
theorem pf_wordLogic (f : Bool → Bool → Bool) : PanicFree (wordLogic f) := by unfold wordLogic; pf
theorem pf_wordNumTest (ti : Int → Bool) (tr : UInt64 → Bool) : PanicFree (wordNumTest ti tr) := by
  unfold wordNumTest; pf

theorem pf_arithTable : AllPF arithTable :=
  .cons (pf_arithOpsReal ..) <| .cons (pf_arithOpsReal ..) <| .cons (pf_arithOpsReal ..) <|
  .cons (by unfold wordDiv; pf) <| .cons (by unfold wordRem; pf) <| .cons (by unfold wordNeg; pf) <|
  .cons (by unfold wordAbs; pf) <| .cons (pf_wordCmp _) <| .cons (pf_wordCmp _) <|
  .cons (pf_wordCmp _) <| .cons (pf_wordCmp _) <| .cons (pf_wordCmp _) <| .cons (pf_wordCmp _) <|
  .cons (pf_wordLogic _) <| .cons (pf_wordLogic _) <| .cons (pf_wordLogic _) <| .cons (by unfold wordNot; pf) <|
  .cons (pf_arithOpsInt _) <| .cons (pf_arithOpsInt _) <| .cons (pf_arithOpsInt _) <|
  .cons (by unfold wordBnot; pf) <| .cons (pf_arithOpsInt _) <| .cons (pf_arithOpsInt _) <|
  .cons (by unfold wordRound; pf) <| .cons (pf_arithOpsReal ..) <| .cons (pf_arithOpsReal ..) <|
  .cons (by unfold wordIntoReal; pf) <| .cons (by unfold wordIntoInt; pf) <| .cons (pf_wordNumTest ..) <|
  .cons (pf_wordNumTest ..) <| .cons (pf_wordNumTest ..) <| .cons (by unfold wordPopcnt; pf) .nil

open Coll in
theorem pf_collTable : AllPF Coll.collTable :=
  have is (t : Cell → Bool) : PanicFree (wordIs t) := by unfold wordIs; pf
  .cons (by unfold wordInsert; pf) <| .cons (by unfold wordRemove; pf) <| .cons (by unfold wordGet; pf) <|
  .cons (by unfold wordLength; pf) <| .cons (by unfold wordNth; pf) <| .cons (by unfold wordSlice; pf) <|
  .cons (by unfold wordConcat; pf) <| .cons (by unfold wordJoin; pf) <| .cons (by unfold wordSort; pf) <|
  .cons (by unfold wordReverse; pf) <| .cons (by unfold wordPush; pf) <| .cons (by unfold wordCollect; pf) <|
  .cons (by unfold wordUnbox; pf) <| .cons (is _) <| .cons (is _) <| .cons (is _) <| .cons (is _) <|
  .cons (is _) <| .cons (is _) <| .cons (is _) .nil

open Coll in
theorem pf_tagTable : AllPF Coll.tagTable :=
  have bit (n : Nat) : PanicFree (wordFmtBit n) := by unfold wordFmtBit putFmt; pf
  .cons (by unfold wordFmtBase putFmt; pf) <| .cons (bit _) <| .cons (bit _) <| .cons (bit _) <|
  .cons (by unfold wordTags; pf) <| .cons (by unfold Coll.wordWithTags; pf) <| .cons (by unfold wordInsertTag; pf) <|
  .cons (by unfold wordRemoveTag; pf) <| .cons (by unfold wordGetTag; pf) .nil

open Enc in
theorem pf_encodeWord (enc : List Nat → List Nat) : PanicFree (encodeWord enc) := by unfold encodeWord; pf

open Enc in
theorem pf_decodeWord (dec : List Nat → Dec) (hd : ∀ d p, dec d ≠ .panic p) : PanicFree (decodeWord dec) := by
  unfold decodeWord; pf
  rename_i site heq
  exact absurd heq (hd _ site)

open Enc in
theorem pf_encTable : AllPF Enc.encTable :=
  have ofOption (o : Option (List Nat)) (p : String) : Dec.ofOption o ≠ .panic p := by cases o <;> simp [Dec.ofOption]
  .cons (pf_encodeWord _) <| .cons (pf_decodeWord _ fun _ _ => ofOption _ _) <|
  .cons (pf_encodeWord _) <| .cons (pf_decodeWord _ fun _ _ => ofOption _ _) <|
  .cons (pf_encodeWord _) <| .cons (pf_decodeWord _ fun _ _ => ofOption _ _) <|
  .cons (pf_encodeWord _) <| .cons (pf_decodeWord _ z85Guarded_no_panic) .nil

/-! printing: the gap marker stands for the values `formatCell` does not cover -/

def IsPrintGap (s : String) : Prop := s = "model: printing this value is outside the model"

theorem pf_printTable : ∀ e ∈ printTable, PanicOnly IsPrintGap e.2 := by
  intro e he
  simp only [printTable, List.mem_cons, List.mem_nil_iff, or_false] at he
  rcases he with rfl | rfl | rfl | rfl
  · simp only [wordPrint, gapPrint]; pf; rfl
  · simp only [wordPrint, gapPrint]; pf; rfl
  · pf
  · simp only [wordDisplayStack, gapPrint]; pf; rfl

theorem PanicOnly.mono {P Q : String → Prop} (hpq : ∀ s, P s → Q s) {p : Prog} (h : PanicOnly P p) : PanicOnly Q p := by
  induction h with
  | panic site hs => exact .panic site (hpq _ hs)
  | _ => constructor <;> assumption

theorem nativeTable_only : ∀ e ∈ nativeTable, PanicOnly IsPrintGap e.2 := by
  intro e he
  have free : ∀ t, AllPF t → e ∈ t → PanicOnly IsPrintGap e.2 :=
    fun t ht h => PanicOnly.mono (fun _ hf => nomatch hf) (ht e h)
  unfold nativeTable at he
  simp only [List.mem_append] at he
  rcases he with ((((h | h) | h) | h) | h) | h
  · exact free _ pf_coreTable h
  · exact free _ pf_arithTable h
  · exact free _ pf_collTable h
  · exact free _ pf_tagTable h
  · exact free _ pf_encTable h
  · exact pf_printTable e h

theorem nativeProg_only (name : String) (p : Prog) (h : nativeProg name = some p) : PanicOnly IsPrintGap p :=
  nativeTable_only (name, p) (mem_of_lookup h)

/-- the only `panic` answers are the model's two gap markers (a word the table lacks, a value the printing model
    does not cover), which the driver reports as `unsupported`, never as an answer -/
theorem vm_never_panics (fuel : Nat) (m : Mach) (s : String) (m' : Mach)
    (h : run nativeProg fuel m = some (.panic s, m')) :
    s = "model: printing this value is outside the model" ∨
    ∃ name, nativeProg name = none ∧ s = s!"model: native word {name} is outside the model" :=
  run_panic_only nativeProg IsPrintGap nativeProg_only fuel m s m' h

end Xeh.Mach
