/-
The decidable guard `keysComparable` (all keys of one comparable class) and its elimination into a
predicate on which `Cell.cmp` is lawful.
-/
import XehModel.Proofs.CollMap

namespace Xeh

/-- non-NaN reals are comparable as well in the implementation; their lawfulness is not proved, so they are outside
    the guard -/
def keysComparable (ks : List Cell) : Bool :=
  (ks.all fun c => c.keyClass == some .int) || (ks.all fun c => c.keyClass == some .str)

theorem keyClass_int {c : Cell} (h : c.keyClass = some .int) : IsIntCell c := by
  unfold Cell.keyClass at h
  cases hv : c.value <;> rw [hv] at h <;> simp at h
  exact ⟨_, hv⟩

theorem keyClass_str {c : Cell} (h : c.keyClass = some .str) : IsStrCell c := by
  unfold Cell.keyClass at h
  cases hv : c.value <;> rw [hv] at h <;> simp at h
  exact ⟨_, hv⟩

theorem keysComparable_iff {ks : List Cell} : keysComparable ks = true ↔
    (∀ c ∈ ks, c.keyClass = some .int) ∨ (∀ c ∈ ks, c.keyClass = some .str) := by
  simp only [keysComparable, Bool.or_eq_true, List.all_eq_true, beq_iff_eq]

theorem keysComparable_subset {ks ks' : List Cell} (hsub : ∀ c ∈ ks', c ∈ ks) (h : keysComparable ks = true) :
    keysComparable ks' = true :=
  keysComparable_iff.mpr <| (keysComparable_iff.mp h).imp
    (fun h c hc => h c (hsub c hc)) (fun h c hc => h c (hsub c hc))

theorem keysComparable_elim {ks : List Cell} (h : keysComparable ks = true) :
    ∃ P : Cell → Prop, CmpLawfulOn P ∧ ∀ c ∈ ks, P c := by
  rcases keysComparable_iff.mp h with h | h
  · exact ⟨IsIntCell, cmp_lawful_int, fun c hc => keyClass_int (h c hc)⟩
  · exact ⟨IsStrCell, cmp_lawful_str, fun c hc => keyClass_str (h c hc)⟩

def KeysComparable (m : PairList) (probes : List Cell) : Prop :=
  keysComparable (m.toList.map (·.1) ++ probes) = true

instance (m : PairList) (probes : List Cell) : Decidable (KeysComparable m probes) := by
  unfold KeysComparable; infer_instance

theorem KeysComparable.elim {m : PairList} {probes : List Cell} (h : KeysComparable m probes) :
    ∃ P : Cell → Prop, CmpLawfulOn P ∧ KeysIn P m.toList ∧ ∀ c ∈ probes, P c := by
  obtain ⟨P, L, hP⟩ := keysComparable_elim h
  exact ⟨P, L, fun p hp => hP p.1 (List.mem_append_left _ (List.mem_map_of_mem hp)),
    fun c hc => hP c (List.mem_append_right _ hc)⟩

theorem KeysComparable.of_keys {m m' : PairList} {probes : List Cell} (h : KeysComparable m probes)
    (hm : ∀ p ∈ m'.toList, p ∈ m.toList ∨ p.1 ∈ probes) : KeysComparable m' probes := by
  refine keysComparable_subset (fun c hc => ?_) h
  rcases List.mem_append.mp hc with hc | hc
  · obtain ⟨p, hp, rfl⟩ := List.mem_map.mp hc
    exact List.mem_append.mpr ((hm p hp).imp List.mem_map_of_mem id)
  · exact List.mem_append_right _ hc

end Xeh
