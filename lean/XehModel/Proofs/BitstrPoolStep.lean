/-
Every step of the pool machine is the step of the machine on plain values (Model/BitstrPool.lean), and so is every history.
-/
import XehModel.Proofs.BitstrPool

namespace Xeh.Bitstr
open Xeh Xeh.Bits

theorem step_refines (p : Pool) (a : List (Option AVal)) (inv : PoolInv p a) (op : PoolOp) (p' : Pool)
    (hs : p.step op = some p') : PoolInv p' (APool.step a op) := by
  obtain ⟨h, slots⟩ := p
  cases op with
  | newVec bytes | newStatic bytes =>
    by_cases hb : bytes.all (· < 256) = true
    · cases (if_pos hb).symm.trans hs
      exact inv_fresh inv bytes _ fun x hx => of_decide_eq_true (List.all_eq_true.mp hb x hx)
    · cases (if_neg hb).symm.trans hs
  | empty =>
    cases hs
    exact inv_fresh inv [] false (by simp)
  | clone i =>
    obtain ⟨s, hg, rfl⟩ := Option.map_eq_some_iff.mp hs
    obtain ⟨-, ws, ha⟩ := inv.slot hg
    simp only [APool.step, ha]
    exact inv_range inv ⟨ws, rfl⟩
  | drop i =>
    obtain ⟨s, hg, rfl⟩ := Option.map_eq_some_iff.mp hs
    obtain ⟨hi, -, ha⟩ := inv.slot hg
    simp only [APool.step, ha]
    exact inv_dropped inv i s hi
  | peek i n =>
    obtain ⟨s, hg, rfl⟩ := Option.map_eq_some_iff.mp hs
    obtain ⟨-, ws, ha⟩ := inv.slot hg
    simp only [APool.step, ha, peek_eq, le_length_iff ws]
    by_cases hv : s.start + n ≤ usizeMax ∧ s.start + n ≤ s.end_
    · rw [if_pos hv, if_pos hv]
      exact inv_range inv (take_handle ws hv.2)
    · rw [if_neg hv, if_neg hv]
      exact inv
  | seek i pos =>
    obtain ⟨s, hg, rfl⟩ := Option.map_eq_some_iff.mp hs
    obtain ⟨-, ws, ha⟩ := inv.slot hg
    simp only [APool.step, ha, seek, ← end_eq h s ws]
    by_cases hv : s.start ≤ pos ∧ pos ≤ s.end_
    · rw [if_pos hv, if_pos hv]
      exact inv_range inv (drop_handle ws (Nat.add_sub_of_le hv.1).symm hv.2)
    · rw [if_neg hv, if_neg hv]
      exact inv
  | substr i x y =>
    obtain ⟨s, hg, rfl⟩ := Option.map_eq_some_iff.mp hs
    obtain ⟨-, ws, ha⟩ := inv.slot hg
    simp only [APool.step, ha, substr, ← end_eq h s ws]
    by_cases hv : x ≤ y ∧ s.start ≤ x ∧ y ≤ s.end_
    · rw [if_pos hv, if_pos hv]
      exact inv_range inv (sub_handle ws (Nat.add_sub_of_le hv.2.1).symm (Nat.add_sub_of_le (Nat.le_trans hv.2.1 hv.1)).symm
        (Nat.sub_le_sub_right hv.1 _) hv.2.2)
    · rw [if_neg hv, if_neg hv]
      exact inv
  | read i n =>
    obtain ⟨s, hg, rfl⟩ := Option.map_eq_some_iff.mp hs
    obtain ⟨hi, ws, ha⟩ := inv.slot hg
    simp only [APool.step, ha, read_eq, le_length_iff ws]
    by_cases hv : s.start + n ≤ usizeMax ∧ s.start + n ≤ s.end_
    · rw [if_pos hv, if_pos hv]
      exact inv_range (inv_move inv hi (drop_handle ws rfl hv.2) rfl) (take_handle ws hv.2)
    · rw [if_neg hv, if_neg hv]
      exact inv
  | split i k =>
    obtain ⟨s, hg, rfl⟩ := Option.map_eq_some_iff.mp hs
    obtain ⟨-, ws, ha⟩ := inv.slot hg
    simp only [APool.step, ha, splitAt_eq, le_length_iff ws]
    by_cases hv : s.start + k ≤ usizeMax ∧ s.start + k ≤ s.end_
    · rw [if_pos hv, if_pos hv]
      have := inv_range (inv_range inv (take_handle ws hv.2)) (incRc_handle s.buf (drop_handle ws rfl hv.2))
      rwa [List.append_assoc a] at this
    · rw [if_neg hv, if_neg hv]
      exact inv
  | detach i =>
    obtain ⟨s, hg, hs⟩ := Option.bind_eq_some_iff.mp hs
    obtain ⟨hi, ws, ha⟩ := inv.slot hg
    obtain ⟨h', r, hd, hb, c⟩ := detach_consumed h s ws
    simp only [hd, Option.some.injEq] at hs
    subst hs
    simp only [APool.step, ha]
    exact inv_consume inv hi hb c
  | invert i =>
    obtain ⟨s, hg, hs⟩ := Option.bind_eq_some_iff.mp hs
    obtain ⟨hi, ws, ha⟩ := inv.slot hg
    obtain ⟨h', r, hd, hb, c⟩ := invert_strong h s ws
    simp only [hd, Option.some.injEq] at hs
    subst hs
    simp only [APool.step, ha]
    exact inv_consume inv hi hb c
  | append i j =>
    by_cases hij : i = j
    · cases (if_pos hij).symm.trans hs
    · have hs := (if_neg hij).symm.trans hs
      obtain ⟨s, hg, hs⟩ := Option.bind_eq_some_iff.mp hs
      obtain ⟨t, hgj, hs⟩ := Option.bind_eq_some_iff.mp hs
      obtain ⟨hi, ws, ha⟩ := inv.slot hg
      obtain ⟨hj, wt, haj⟩ := inv.slot hgj
      obtain ⟨h', r, hd, hb, c⟩ := append_strong h s t ws wt (shared_of_two inv hij hi hj)
      simp only [hd, Option.some.injEq] at hs
      subst hs
      simp only [APool.step, ha, haj]
      exact inv_consume inv hi hb c
  | insert i k j =>
    by_cases hij : i = j
    · cases (if_pos hij).symm.trans hs
    · have hs := (if_neg hij).symm.trans hs
      obtain ⟨s, hg, hs⟩ := Option.bind_eq_some_iff.mp hs
      obtain ⟨t, hgj, hs⟩ := Option.bind_eq_some_iff.mp hs
      obtain ⟨hi, ws, ha⟩ := inv.slot hg
      obtain ⟨-, wt, haj⟩ := inv.slot hgj
      simp only [APool.step, ha, haj, le_length_iff ws]
      by_cases hv : s.start + k ≤ s.end_ ∧ s.start + k ≤ usizeMax
      · obtain ⟨h', r, hd, hb, c⟩ := insert_strong h s t k ws wt hv.1 hv.2
        simp only [hd, Option.some.injEq] at hs
        subst hs
        rw [if_pos hv]
        exact inv_consume inv hi hb c
      · simp only [insert_invalid h s t k hv, Option.some.injEq] at hs
        subst hs
        rw [if_neg hv]
        exact inv_dropped inv i s hi

theorem run_refines (ops : List PoolOp) : ∀ (p : Pool) (a : List (Option AVal)), PoolInv p a →
    ∀ p', p.run ops = some p' → PoolInv p' (APool.run ops a) := by
  induction ops with
  | nil => intro p a inv p' h; cases h; exact inv
  | cons op ops ih =>
    intro p a inv p' h
    obtain ⟨p1, hs, h⟩ := Option.bind_eq_some_iff.mp h
    exact ih p1 _ (step_refines p a inv op p1 hs) p' h

/-- the operations a Rust program can write: live operands, `append` / `insert` of two different values (the receiver is
    moved), bytes that are bytes -/
def PoolOp.Valid (slots : List (Option Handle)) : PoolOp → Prop
  | .newVec bytes => bytes.all (· < 256) = true
  | .newStatic bytes => bytes.all (· < 256) = true
  | .empty => True
  | .clone i | .drop i | .read i _ | .peek i _ | .seek i _ | .substr i _ _ | .split i _ | .detach i | .invert i =>
    ∃ s, slots[i]? = some (some s)
  | .append i j | .insert i _ j => i ≠ j ∧ (∃ s, slots[i]? = some (some s)) ∧ (∃ t, slots[j]? = some (some t))

theorem step_total (p : Pool) (a : List (Option AVal)) (inv : PoolInv p a) (op : PoolOp) (hv : op.Valid p.slots) :
    ∃ p', p.step op = some p' := by
  obtain ⟨h, slots⟩ := p
  cases op with
  | newVec bytes | newStatic bytes => exact ⟨_, if_pos hv⟩
  | empty => exact ⟨_, rfl⟩
  | clone i | drop i | read i | peek i | seek i | substr i | split i =>
    obtain ⟨s, hi⟩ := hv
    exact ⟨_, congrArg (Option.map _) (Pool.get_eq_some.mpr hi)⟩
  | detach i =>
    obtain ⟨s, hi⟩ := hv
    obtain ⟨h', r, hd, _⟩ := detach_spec h s (inv.live i s hi).1
    exact ⟨_, by simp only [Pool.step, Pool.get_eq_some.mpr hi, Option.bind_some, hd]; rfl⟩
  | invert i =>
    obtain ⟨s, hi⟩ := hv
    obtain ⟨h', r, hd, _⟩ := invert_strong h s (inv.live i s hi).1
    exact ⟨_, by simp only [Pool.step, Pool.get_eq_some.mpr hi, Option.bind_some, hd]; rfl⟩
  | append i j =>
    obtain ⟨hij, ⟨s, hi⟩, ⟨t, hj⟩⟩ := hv
    obtain ⟨h', r, hd, _⟩ := append_spec h s t (inv.live i s hi).1 (inv.live j t hj).1 (shared_of_two inv hij hi hj)
    exact ⟨_, by simp only [Pool.step, if_neg hij, Pool.get_eq_some.mpr hi, Pool.get_eq_some.mpr hj, Option.bind_some, hd]; rfl⟩
  | insert i k j =>
    obtain ⟨hij, ⟨s, hi⟩, ⟨t, hj⟩⟩ := hv
    by_cases hk : s.start + k ≤ s.end_ ∧ s.start + k ≤ usizeMax
    · obtain ⟨h', r, hd, _⟩ := insert_strong h s t k (inv.live i s hi).1 (inv.live j t hj).1 hk.1 hk.2
      exact ⟨_, by simp only [Pool.step, if_neg hij, Pool.get_eq_some.mpr hi, Pool.get_eq_some.mpr hj, Option.bind_some, hd]; rfl⟩
    · exact ⟨_, by simp only [Pool.step, if_neg hij, Pool.get_eq_some.mpr hi, Pool.get_eq_some.mpr hj, Option.bind_some, insert_invalid h s t k hk]; rfl⟩

end Xeh.Bitstr
