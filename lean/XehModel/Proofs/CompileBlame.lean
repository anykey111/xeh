/-
C17, build-time failures: which token a failing build blames.  Every error of the flow-stack compiler is raised
through `cerr`, which copies the current-token marker `lastTok` into it, and the marker is only ever set to the index of
a word of the source (or, at the end of the input, to the index just past it).  This is the walk of `CompileWalk` with
nothing asked of the state and "the index of a word of this source" asked of the marker.
-/
import XehModel.Proofs.CompileWalk

namespace Xeh.Compile.Blame
open Xeh Xeh.Compile Xeh.Compile.CState

def Same4 (s s' : CState) : Prop := s'.lastTok = s.lastTok

abbrev HL := Same4

theorem Same4.rfl' {s : CState} : Same4 s s := rfl
theorem HL.refl (s : CState) : HL s s := rfl

/-- `idx` = index of the first token of `toks` -/
def Blames (toks : List Tok) (idx : Nat) (e : CErr) : Prop :=
  e.tok = idx + toks.length ∨ (idx ≤ e.tok ∧ ∃ w, toks[e.tok - idx]? = some (.word w))

theorem compileToks_blames (toks : List Tok) (idx : Nat) (s : CState) (e : CErr) (sp : CState)
    (h : compileToks toks idx s = .err e sp) : Blames toks idx e := by
  have K : Keeps 0 (fun i => ∃ w, (Tok.word w, i) ∈ toks.zipIdx idx) fun _ => True :=
    ⟨fun _ => Nat.zero_le _, fun _ _ _ => trivial, fun _ _ => trivial, fun _ _ _ _ => trivial, fun _ _ => trivial,
     fun _ _ => trivial, fun _ _ => trivial⟩
  obtain ⟨_, he, ⟨w, hm⟩ | hend⟩ := (compileToks_keeps K toks idx s (fun t i hm => by
    cases t with
    | word w => exact ⟨w, hm⟩
    | lit c => exact fun _ _ => trivial) trivial (orgs_zero _)).err h
  · obtain ⟨h1, h2, h3⟩ := List.mem_zipIdx hm
    exact .inr ⟨he ▸ h1, w, by rw [he, List.getElem?_eq_getElem (by omega), ← h3]⟩
  · exact .inl (he.trans hend)

theorem unknown_word_blames_itself (w : String) (rest : List Tok) (idx : Nat) (s : CState)
    (hloc : ((CState.topFun s.flows).bind fun ff => CState.rposition w ff.locals) = none)
    (hdict : s.dict.lookup w = none) :
    compileToks (.word w :: rest) idx s = .err ⟨.unknownWord w.toList, idx⟩ { s with lastTok := idx } := by
  rw [compileToks]
  simp only [hloc, hdict, buildWord, cerr]

theorem open_structure_blames_the_end (idx : Nat) (s : CState) (f : Flow) (fs : List Flow) (hf : s.flows = f :: fs) :
    compileToks [] idx s = .err ⟨flowError f, idx⟩ { s with lastTok := idx } := by
  rw [compileToks]
  simp only [hf, cerr]

end Xeh.Compile.Blame
