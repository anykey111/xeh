/- Radix regrouping (`toDigits` / `ofDigits`). -/
import XehModel.Model.Enc

namespace Xeh.Enc

theorem toDigitsLE_length (b k n : Nat) : (toDigitsLE b k n).length = k := by
  induction k generalizing n with
  | zero => rfl
  | succ k ih => simp [toDigitsLE, ih]

theorem toDigitsLE_lt (b k n : Nat) (hb : 0 < b) : ∀ d ∈ toDigitsLE b k n, d < b := by
  induction k generalizing n with
  | zero => simp [toDigitsLE]
  | succ k ih =>
    intro d hd
    simp only [toDigitsLE, List.mem_cons] at hd
    rcases hd with rfl | hd
    · exact Nat.mod_lt _ hb
    · exact ih _ d hd

theorem ofDigitsLE_toDigitsLE (b k n : Nat) : ofDigitsLE b (toDigitsLE b k n) = n % b ^ k := by
  induction k generalizing n with
  | zero => simp [toDigitsLE, ofDigitsLE, Nat.mod_one]
  | succ k ih =>
    simp only [toDigitsLE, ofDigitsLE, ih]
    rw [Nat.pow_succ, Nat.mul_comm (b ^ k) b, Nat.mod_mul]

theorem toDigitsLE_ofDigitsLE (b : Nat) (ds : List Nat) (h : ∀ d ∈ ds, d < b) :
    toDigitsLE b ds.length (ofDigitsLE b ds) = ds := by
  induction ds with
  | nil => rfl
  | cons d ds ih =>
    have hd : d < b := h d (by simp)
    have hb : 0 < b := by omega
    simp only [List.length_cons, toDigitsLE, ofDigitsLE]
    rw [Nat.add_mul_mod_self_left, Nat.mod_eq_of_lt hd, Nat.add_mul_div_left _ _ hb,
      Nat.div_eq_of_lt hd, Nat.zero_add, ih (fun x hx => h x (by simp [hx]))]

theorem ofDigitsLE_append (b : Nat) (xs ys : List Nat) :
    ofDigitsLE b (xs ++ ys) = ofDigitsLE b xs + b ^ xs.length * ofDigitsLE b ys := by
  induction xs with
  | nil => simp [ofDigitsLE]
  | cons x xs ih =>
    simp only [List.cons_append, ofDigitsLE, ih, List.length_cons, Nat.pow_succ, Nat.mul_add,
      Nat.mul_comm (b ^ xs.length) b, Nat.mul_assoc, Nat.add_assoc]

theorem toDigitsLE_add (b j k n : Nat) :
    toDigitsLE b (j + k) n = toDigitsLE b j n ++ toDigitsLE b k (n / b ^ j) := by
  induction j generalizing n with
  | zero => simp [toDigitsLE]
  | succ j ih =>
    rw [Nat.add_right_comm]
    simp only [toDigitsLE, ih, List.cons_append, Nat.div_div_eq_div_mul, Nat.pow_succ,
      Nat.mul_comm (b ^ j) b]

theorem toDigits_length (b k n : Nat) : (toDigits b k n).length = k := by
  simp [toDigits, toDigitsLE_length]

theorem toDigits_lt (b k n : Nat) (hb : 0 < b) : ∀ d ∈ toDigits b k n, d < b := by
  intro d hd
  exact toDigitsLE_lt b k n hb d (by simpa [toDigits] using hd)

theorem ofDigits_toDigits_mod (b k n : Nat) : ofDigits b (toDigits b k n) = n % b ^ k := by
  simp [ofDigits, toDigits, ofDigitsLE_toDigitsLE]

theorem ofDigits_toDigits (b k n : Nat) (hn : n < b ^ k) : ofDigits b (toDigits b k n) = n := by
  rw [ofDigits_toDigits_mod, Nat.mod_eq_of_lt hn]

theorem toDigits_ofDigits (b : Nat) (ds : List Nat) (h : ∀ d ∈ ds, d < b) :
    toDigits b ds.length (ofDigits b ds) = ds := by
  have := toDigitsLE_ofDigitsLE b ds.reverse (by simpa using h)
  simp only [List.length_reverse] at this
  simp [toDigits, ofDigits, this]

theorem toDigits_mod (b k n : Nat) (hb : 0 < b) : toDigits b k (n % b ^ k) = toDigits b k n := by
  have := toDigits_ofDigits b (toDigits b k n) (toDigits_lt b k n hb)
  rwa [toDigits_length, ofDigits_toDigits_mod] at this

theorem ofDigits_lt (b : Nat) (ds : List Nat) (h : ∀ d ∈ ds, d < b) :
    ofDigits b ds < b ^ ds.length := by
  have hb : 0 < b ^ ds.length := by
    cases ds with
    | nil => exact Nat.one_pos
    | cons d ds => exact Nat.pow_pos (Nat.zero_lt_of_lt (h d (by simp)))
  have := ofDigits_toDigits_mod b ds.length (ofDigits b ds)
  rw [toDigits_ofDigits b ds h] at this
  exact Nat.lt_of_le_of_lt (Nat.le_of_eq this) (Nat.mod_lt _ hb)

theorem regroup (b c j k : Nat) (ds : List Nat) (hl : ds.length = j) (h : ∀ d ∈ ds, d < b)
    (hle : b ^ j ≤ c ^ k) :
    toDigits b j (ofDigits c (toDigits c k (ofDigits b ds))) = ds := by
  have h1 : ofDigits b ds < c ^ k := by
    have := ofDigits_lt b ds h
    rw [hl] at this; omega
  rw [ofDigits_toDigits_mod, Nat.mod_eq_of_lt h1, ← hl, toDigits_ofDigits b ds h]

theorem ofDigits_append (b : Nat) (xs ys : List Nat) :
    ofDigits b (xs ++ ys) = ofDigits b xs * b ^ ys.length + ofDigits b ys := by
  simp only [ofDigits, List.reverse_append, ofDigitsLE_append, List.length_reverse]
  rw [Nat.add_comm, Nat.mul_comm]

theorem toDigits_add (b j k n : Nat) :
    toDigits b (j + k) n = toDigits b j (n / b ^ k) ++ toDigits b k n := by
  simp only [toDigits, Nat.add_comm j k, toDigitsLE_add, List.reverse_append]

theorem toDigits_drop (b j k n : Nat) : (toDigits b (j + k) n).drop j = toDigits b k n := by
  rw [toDigits_add, List.drop_left' (toDigits_length ..)]

theorem toDigits_succ (b k n : Nat) : toDigits b (k + 1) n = n / b ^ k % b :: toDigits b k n := by
  rw [Nat.add_comm, toDigits_add]; simp [toDigits, toDigitsLE]

theorem ofDigits_zeros (b e : Nat) : ofDigits b (zeros e) = 0 := by
  rw [ofDigits, zeros, List.reverse_replicate]
  induction e with
  | zero => rfl
  | succ e ih => rw [List.replicate_succ, ofDigitsLE, ih, Nat.mul_zero]

theorem toDigits_zero (b k : Nat) (hb : 0 < b) : toDigits b k 0 = zeros k := by
  have := toDigits_ofDigits b (zeros k) (by simp [zeros]; omega)
  rwa [ofDigits_zeros, zeros, List.length_replicate] at this

theorem toDigits_mul_pow (b j e n : Nat) (hb : 0 < b) :
    toDigits b (j + e) (n * b ^ e) = toDigits b j n ++ zeros e := by
  rw [toDigits_add, Nat.mul_div_cancel _ (Nat.pow_pos hb), ← toDigits_mod b e _ hb,
    Nat.mul_mod_left, toDigits_zero b e hb]

theorem ofDigits_append_zeros (b e : Nat) (ds : List Nat) :
    ofDigits b (ds ++ zeros e) = ofDigits b ds * b ^ e := by
  rw [ofDigits_append, ofDigits_zeros, zeros, List.length_replicate, Nat.add_zero]

theorem ofDigits_zeros_append (b e : Nat) (ds : List Nat) :
    ofDigits b (zeros e ++ ds) = ofDigits b ds := by
  rw [ofDigits_append, ofDigits_zeros, Nat.zero_mul, Nat.zero_add]

end Xeh.Enc
