/-
C06 — parsing cursor: a read returns exactly the requested bits and advances that far.

The model is Model/Cursor.lean: `step : CurState → POp → CurState × Outcome Unit`, arguments on the data stack
`ds` (head = top) — *any* cells: huge, negative, of the wrong type, or missing.  All theorems
quantify over every state, every word and every stack; none restricts the arguments.

Vocabulary: `pos` is the offset relative to the input's first bit, `base` the absolute position of
that bit (`input.start()`), so Rust's `offset` = `base + pos`, `end` = `base + input.length`.
`slice s n` = bits `[offset, offset+n)` of the open input.  `Same s s'` = input, base, pos and stash
are unchanged.  `op.arity` = number of cells the word may take from the stack.
-/
import XehModel.Proofs.CursorRead
import XehModel.Proofs.CursorLifo
import XehModel.Proofs.CursorFind
import XehModel.Proofs.BitstrRange


namespace Xeh.C06
open Xeh Xeh.Cur

/-! ### the offset always stays inside the input -/

theorem inv_boot : Cur.Inv CurState.boot := by
  simp [Cur.Inv, CurState.boot]

theorem inv_step (s : CurState) (op : POp) (hi : Cur.Inv s) : Cur.Inv (step s op).1 := by
  have e := step_effect s op
  generalize step s op = res at e
  cases e with
  | read k c room n fit => exact ⟨fit, hi.2⟩
  | seek p fit => exact ⟨Nat.sub_le_of_le_add (Nat.add_comm _ _ ▸ fit), hi.2⟩
  | opened b base => exact ⟨Nat.zero_le _, fun f hf => (List.mem_cons.mp hf).elim (· ▸ hi.1) (hi.2 f)⟩
  | closed f t hs =>
    exact ⟨hi.2 f (hs ▸ List.mem_cons_self), fun g hg => hi.2 g (hs ▸ List.mem_cons_of_mem _ hg)⟩
  | _ => exact hi

/-- for every history of words (errors included: the interpreter carries on with the next word) -/
theorem inv_history (ops : List POp) (s : CurState) (hi : Cur.Inv s) : Cur.Inv (runAll s ops) :=
  runAll_ind ops s (fun p op _ => inv_step (runAll s p) op) hi

/-- in absolute terms: start ≤ offset ≤ end -/
theorem offset_inside (s : CurState) (hi : Cur.Inv s) :
    s.base ≤ s.base + s.pos ∧ s.base + s.pos ≤ s.base + s.input.length := by
  have := hi.1; omega

/-- `remain` = end − offset (as integers: nothing is clamped when the invariant holds) -/
theorem remain_eq (s : CurState) (hi : Cur.Inv s) (hroom : full s = false) :
    step s .remain =
      ({ s with ds := .int (((s.base + s.input.length : Nat) : Int) - ((s.base + s.pos : Nat) : Int)) :: s.ds },
       .ok ()) := by
  have := hi.1
  simp only [step, pushC, remainOf, hroom, Bool.false_eq_true, if_false]
  have e : ((s.input.length - s.pos : Nat) : Int) =
      ((s.base + s.input.length : Nat) : Int) - ((s.base + s.pos : Nat) : Int) := by omega
  rw [e]

/-! ### a successful read -/

/-- every read word (`bits bytes uN iN fN uint int float magic nulbytestr cstr`, all byte-order
    variants): if it succeeds then for some `n` — fixed by the word and its argument as `ReadSpec`
    says — `n` bits were available, the pushed value is the decoding of exactly bits
    `[offset, offset+n)`, the offset advanced by exactly `n`, and the rest of the state (input,
    stash, byte order, output, the stack below the word's arguments) is untouched. -/
theorem read_ok (s s' : CurState) (op : POp) (hop : op.isRead = true)
    (h : step s op = (s', .ok ())) :
    ∃ n v, s.pos + n ≤ s.input.length ∧ ReadSpec s n v op ∧
      s' = { s with pos := s.pos + n, ds := v :: s.ds.drop op.arity } :=
  (read_word_ok s op s' hop h).2

/-- A read word that succeeds found room for its result: counted without the word's own arguments, the stack was below the limit
    configured with `set_stack_limit`.  Read the other way round: **with the stack at its limit no read succeeds** —
    and by `fail_atomic` a read that does not succeed, for this reason as for any other, leaves input, offset and
    stash untouched (the code used to move the offset before the refused push: repair afd22d3). -/
theorem read_ok_room (s s' : CurState) (op : POp) (hop : op.isRead = true)
    (h : step s op = (s', .ok ())) : full { s with ds := s.ds.drop op.arity } = false :=
  (read_word_ok s op s' hop h).1

/-- the bits handed back by `bits` are the slice itself and have the requested length -/
theorem read_ok_bits (s s' : CurState) (h : step s .bits = (s', .ok ())) :
    ∃ n c, s.ds.head? = some c ∧ c.toUsize = .ok n ∧
      s'.ds = .bitstr (slice s n) :: s.ds.tail ∧ (slice s n).length = n ∧
      s'.pos = s.pos + n ∧ Same s { s' with pos := s.pos } := by
  obtain ⟨n, v, hfit, ⟨c, hc, hn, rfl⟩, rfl⟩ := read_ok s s' .bits rfl h
  exact ⟨n, c, hc, hn, by simp [POp.arity], slice_length hfit, rfl, by simp [Same]⟩

/-- conversely a `bits` inside the input does succeed — for any representable size argument -/
theorem read_succeeds_bits (s : CurState) (c : Cell) (t : List Cell) (n : Nat)
    (hds : s.ds = c :: t) (hn : c.toUsize = .ok n) (hfit : s.pos + n ≤ s.input.length)
    (hbuf : s.base + s.input.length ≤ usizeMaxN) (hroom : full { s with ds := t } = false) :
    step s .bits = ({ s with pos := s.pos + n, ds := .bitstr (slice s n) :: t }, .ok ()) := by
  have h1 : ¬ (s.base + s.pos + n > usizeMaxN) := by omega
  simp [step, popUsize_cons hds _ hn, readWith_eq, peek, lift, slice, hroom, h1, hfit]

/-- `seek p` succeeds exactly for start ≤ p ≤ end, and then offset = p -/
theorem seek_iff (s : CurState) (c : Cell) (t : List Cell) (p : Nat)
    (hds : s.ds = c :: t) (hp : c.toUsize = .ok p) :
    (step s .seek = ({ s with pos := p - s.base, ds := t }, .ok ()) ∧
        s.base ≤ p ∧ p ≤ s.base + s.input.length) ∨
    (step s .seek = ({ s with ds := t }, .err (.seekError p)) ∧
        ¬ (s.base ≤ p ∧ p ≤ s.base + s.input.length)) := by
  simp only [step, popUsize_cons hds _ hp, moveAbs, moveThen]
  by_cases h : s.base ≤ p ∧ p ≤ s.base + s.input.length
  · left; simp [h]
  · right; simp [h]

/-- a successful `find`: input, offset, stash untouched; the pattern and the rest are whole bytes and
    the rest starts on a byte boundary of its buffer; the result is `offset + 8·d` for the smallest
    byte index `d` at which the pattern occurs in the rest, or nil when it occurs at none -/
theorem find_ok (s s' : CurState) (h : step s .find = (s', .ok ())) :
    ∃ c t pat, s.ds = c :: t ∧ c.toBitstr = .ok pat ∧ pat.length % 8 = 0 ∧
      (s.base + s.pos) % 8 = 0 ∧ (s.input.length - s.pos) % 8 = 0 ∧
      ((∃ d, s' = { s with ds := .int ((s.base + s.pos + d * 8 : Nat) : Int) :: t } ∧
          d ≤ (s.input.length - s.pos) / 8 ∧
          occursAt pat (s.input.drop s.pos) d ∧ ∀ k, k < d → ¬ occursAt pat (s.input.drop s.pos) k) ∨
       (s' = { s with ds := .nil :: t } ∧
          ∀ k, k ≤ (s.input.length - s.pos) / 8 → ¬ occursAt pat (s.input.drop s.pos) k)) := by
  obtain ⟨c, pat, hd, hp, h⟩ := popBitstr_ok h
  obtain ⟨r, hr, h⟩ := lift_ok h
  obtain ⟨_, rfl⟩ := rest_ok hr
  split at h
  · exact nomatch h
  · rename_i h1
    split at h
    · exact nomatch h
    · rename_i h2
      rw [List.length_drop] at h2
      obtain ⟨h2, h3⟩ := not_or.mp h2
      refine ⟨c, _, pat, hd, hp, Decidable.not_not.mp h1, Decidable.not_not.mp h2, Decidable.not_not.mp h3, ?_⟩
      unfold findBytes at h
      rw [List.length_drop] at h
      split at h
      · rename_i i hi
        obtain ⟨d, rfl, hdle, hocc, hmin⟩ := findGo_some pat _ _ _ _ hi
        exact .inl ⟨d, by rw [(pushC_ok h).1, Nat.zero_add], hdle, hocc, hmin⟩
      · rename_i hi
        exact .inr ⟨(pushC_ok h).1, findGo_none pat _ _ _ hi⟩

/-! ### failures are atomic -/

/-- whatever the word and whatever is on the stack: if the word does not succeed (error or panic),
    input, offset and stash are untouched, the byte order too, and the data stack is the old one
    minus at most `op.arity` cells from the top (the arguments the word had already popped). -/
theorem fail_atomic (s s' : CurState) (op : POp) (r : Outcome Unit)
    (h : step s op = (s', r)) (hr : r ≠ .ok ()) :
    Same s s' ∧ s'.ds <:+ s.ds ∧ s.ds.length ≤ s'.ds.length + op.arity ∧ s'.bigEndian = s.bigEndian := by
  have e := step_effect s op
  rw [h] at e
  cases e with
  | fail k hk =>
    exact ⟨⟨rfl, rfl, rfl, rfl⟩, List.drop_suffix k s.ds, by simp only [List.length_drop]; omega, rfl⟩
  | _ => exact absurd rfl hr

/-- the refusal spelled out: a read with the stack at its limit fails and moves nothing -/
theorem read_refused_moves_nothing (s : CurState) (op : POp) (hop : op.isRead = true)
    (hfull : full { s with ds := s.ds.drop op.arity } = true) :
    (step s op).2 ≠ .ok () ∧ Same s (step s op).1 := by
  have hne : (step s op).2 ≠ .ok () := by
    intro hok
    have := read_ok_room s (step s op).1 op hop (by rw [← hok])
    rw [hfull] at this
    exact Bool.noConfusion this
  exact ⟨hne, (fail_atomic s _ op _ rfl hne).1⟩

/-- a whole history of failing words leaves the cursor where it was -/
theorem fail_history (ops : List POp) (s : CurState)
    (hfail : ∀ (p : List POp) (op : POp), p ++ [op] <+: ops → (step (runAll s p) op).2 ≠ .ok ()) :
    Same s (runAll s ops) :=
  runAll_ind (P := Same s) ops s
    (fun p op hp ht => ht.trans (fail_atomic _ _ op _ rfl (hfail p op hp)).1) (Same.refl s)

/-! ### close-bitstr restores the previously open input and offset, in LIFO order -/

/-- `open-bitstr` of any bit-string, then any words that never close more than they opened
    (`hnest`: the stash never gets shallower than right after our open) and end at the same depth
    (`hbal`), then `close-bitstr`: the close succeeds and input, start, offset **and the whole stash
    underneath** are exactly what they were before the open.  Words in between may fail, may open and
    close further inputs (apply the theorem to them recursively), may carry any arguments. -/
theorem open_close_lifo (s : CurState) (c : Cell) (b : List Bool) (t : List Cell) (base : Nat)
    (ops : List POp) (hds : s.ds = c :: t) (hc : c.toBitstr = .ok b)
    (hnest : ∀ p, p <+: ops →
      s.stash.length + 1 ≤ (runAll (step s (.openBitstr base)).1 p).stash.length)
    (hbal : (runAll (step s (.openBitstr base)).1 ops).stash.length = s.stash.length + 1) :
    (step s (.openBitstr base)).2 = .ok () ∧
    (step s (.openBitstr base)).1.input = b ∧ (step s (.openBitstr base)).1.pos = 0 ∧
    (step (runAll (step s (.openBitstr base)).1 ops) .closeBitstr).2 = .ok () ∧
    Same s (step (runAll (step s (.openBitstr base)).1 ops) .closeBitstr).1 := by
  rw [step_open hds hc] at hnest hbal ⊢
  have hsuf := runAll_stash_suffix (⟨s.input, s.base, s.pos⟩ :: s.stash) ops _ (List.suffix_refl _) hnest
  have heq := hsuf.eq_of_length hbal.symm
  refine ⟨rfl, rfl, rfl, ?_⟩
  generalize runAll _ ops = sf at heq
  constructor <;> simp [step, ← heq, Same]

/-- words other than open-bitstr/close-bitstr -/
def notOpenClose : POp → Bool
  | .openBitstr _ | .closeBitstr => false
  | _ => true

theorem stash_flat (ops : List POp) (s : CurState) (hflat : ops.all notOpenClose = true) :
    (runAll s ops).stash = s.stash :=
  runAll_ind (P := fun t => t.stash = s.stash) ops s
    (fun p op hp ht => by
      have e := step_effect (runAll s p) op
      generalize step (runAll s p) op = res at e
      cases e with
      | opened | closed => exact Bool.noConfusion (List.all_eq_true.mp hflat _ (mem_of_snoc_prefix hp))
      | _ => exact ht) rfl

/-- instance of `open_close_lifo`: any words except open/close in between, any arguments, any failures -/
theorem open_close_flat (s : CurState) (c : Cell) (b : List Bool) (t : List Cell) (base : Nat)
    (ops : List POp) (hds : s.ds = c :: t) (hc : c.toBitstr = .ok b)
    (hflat : ops.all notOpenClose = true) :
    (step (runAll (step s (.openBitstr base)).1 ops) .closeBitstr).2 = .ok () ∧
    Same s (step (runAll (step s (.openBitstr base)).1 ops) .closeBitstr).1 := by
  have h := open_close_lifo s c b t base ops hds hc
    (fun p ⟨q, hq⟩ => by
      rw [stash_flat p _ (by rw [← hq, List.all_append, Bool.and_eq_true] at hflat; exact hflat.1), step_open hds hc]
      exact Nat.le_refl _)
    (by rw [stash_flat ops _ hflat, step_open hds hc]; rfl)
  exact ⟨h.2.2.2.1, h.2.2.2.2⟩

/-! ### the hypotheses are satisfiable: concrete non-trivial instances -/

/-- input `1011 0010 1` opened at buffer position 3, offset 2 -/
def exState : CurState :=
  { input := [true, false, true, true, false, false, true, false, true], base := 3, pos := 2,
    stash := [⟨[true, true], 0, 1⟩], ds := [.int 4, .nil] }

example : Cur.Inv exState := by decide

/-- `4 bits` reads bits [2,6) = 1100 and moves the offset to 6 -/
example : step exState .bits =
    ({ exState with pos := 6, ds := [.bitstr [true, true, false, false], .nil] }, .ok ()) := by decide

/-- `2^64 bits`: IntegerOverflow, only the argument is gone -/
example : step { exState with ds := [.int (2^64), .nil] } .bits =
    ({ exState with ds := [.nil] }, .err .integerOverflow) := by decide

/-- `2^64-1 bits`: the offset addition would overflow usize — ReadError, nothing moved -/
example : step { exState with ds := [.int (2^64 - 1), .nil] } .bits =
    ({ exState with ds := [.nil] }, .err (.readError 7 (2^64 - 1))) := by decide

/-- the hypothesis of `read_refused_moves_nothing` on the two-cell stack of `exState`: `u8` (no argument) has room under
    a limit of 3 and is refused under a limit of 2; `4 bits`, whose argument is one of the two cells, is refused under
    a limit of 1, and then nothing moves -/
example : full { ({ exState with stackLimit := some 3 } : CurState) with ds := ({ exState with stackLimit := some 3 } : CurState).ds.drop (POp.readU 8 none).arity } = false := by decide
example : full { ({ exState with stackLimit := some 2 } : CurState) with ds := ({ exState with stackLimit := some 2 } : CurState).ds.drop (POp.readU 8 none).arity } = true := by decide
example : full { ({ exState with stackLimit := some 1 } : CurState) with ds := ({ exState with stackLimit := some 1 } : CurState).ds.drop POp.bits.arity } = true := by decide
example : Same ({ exState with stackLimit := some 1 } : CurState) (step { exState with stackLimit := some 1 } .bits).1 :=
  (read_refused_moves_nothing _ .bits rfl (by decide)).2

/-- nested open/close with a failing read in between satisfies `hnest`/`hbal` of `open_close_lifo` -/
example :
    let ops : List POp := [.push (.int 99), .bits, .push (.bitstr [true]), .openBitstr 0, .readU 8 none,
      .closeBitstr, .push (.int 1), .bits]
    (∀ p, p <+: ops → exState.stash.length + 1 ≤
        (runAll (step { exState with ds := [.bitstr [false, true, true]] } (.openBitstr 5)).1 p).stash.length) ∧
    (runAll (step { exState with ds := [.bitstr [false, true, true]] } (.openBitstr 5)).1 ops).stash.length
      = exState.stash.length + 1 := by
  refine ⟨?_, by decide⟩
  intro p hp
  have key : ∀ k, k < 9 → exState.stash.length + 1 ≤
      (runAll (step { exState with ds := [.bitstr [false, true, true]] } (.openBitstr 5)).1
        (List.take k [POp.push (.int 99), .bits, .push (.bitstr [true]), .openBitstr 0, .readU 8 none,
          .closeBitstr, .push (.int 1), .bits])).stash.length := by decide
  have hlen := hp.length_le
  rw [List.prefix_iff_eq_take.mp hp]
  exact key _ (by simp at hlen; omega)

/-! ### the two layers agree: the cursor model's input is a bit list, the implementation's is a handle into a buffer -/

/-- **Reads do not depend on how the input is stored.** The cursor model (Model/Cursor.lean) keeps the open input as a
    plain list of bits and a base; the implementation keeps a `Bitstr` handle and reads with
    `substr(offset, offset + n)` (`peek_bits`). For EVERY buffer heap and EVERY well-formed handle that denotes the
    model's input and starts at the model's base — a fresh value, a slice of a longer buffer with stale bits around
    it, a buffer shared with other values — the model's `peek` succeeds exactly when that `substr` does, and with the
    same bits. -/
theorem reads_do_not_depend_on_storage (h : Bitstr.Heap) (inp : Bitstr.Handle) (wf : Bitstr.WF h inp) (cs : CurState)
    (hin : cs.input = Bitstr.bits h inp) (hbase : cs.base = inp.start) (n : Nat) :
    match peek cs n with
    | .ok bs => ∃ h' r, Bitstr.substr h inp (cs.base + cs.pos) (cs.base + cs.pos + n) = (h', some r) ∧
        Bitstr.WF h' r ∧ Bitstr.bits h' r = bs
    | _ => cs.base + cs.pos + n > usizeMaxN ∨
        Bitstr.substr h inp (cs.base + cs.pos) (cs.base + cs.pos + n) = (h, none) := by
  have hend : inp.end_ = cs.base + cs.input.length := by rw [hbase, hin]; exact Bitstr.end_eq h inp wf
  unfold peek
  by_cases h1 : cs.base + cs.pos + n > usizeMaxN
  · rw [if_pos h1]; exact Or.inl h1
  · rw [if_neg h1]
    by_cases h2 : cs.pos + n ≤ cs.input.length
    · rw [if_pos h2]
      have hb : cs.base + cs.pos + n ≤ inp.end_ := by omega
      have hr := Bitstr.incRc_handle inp.buf
        (Bitstr.sub_handle wf (a := cs.base + cs.pos) (by rw [hbase]) (by rw [hbase, Nat.add_assoc])
          (Nat.le_add_right cs.pos n) hb)
      -- `Bits.slice l a b` is bits `a` to `b` of `l`; the model's `peek` takes `n` bits behind the offset
      rw [← hin, Bits.slice, Nat.add_sub_cancel_left] at hr
      exact ⟨_, _, by unfold Bitstr.substr; rw [if_pos ⟨by omega, by omega, hb⟩], hr⟩
    · rw [if_neg h2]
      exact .inr (by unfold Bitstr.substr; rw [if_neg (by omega)])

end Xeh.C06
