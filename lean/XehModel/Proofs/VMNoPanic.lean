/-
C08, VM layer: a VM step cannot panic by itself.  Every `Outcome.panic` the step function can answer is either
the out-of-range instruction fetch (excluded by the `ip < code.len()` test that `next` and `run` make first), comes
out of the program of a native word, or is the model's marker for a native word its table lacks.
-/
import XehModel.Proofs.VMPre

namespace Xeh.Mach

def NP {α : Type} (o : Outcome α) : Prop := ∀ s, o ≠ .panic s

theorem NP_ok {α : Type} (a : α) : NP (Outcome.ok a) := fun _ h => by cases h
theorem NP_err {α : Type} (e : Xerr) : NP (Outcome.err e : Outcome α) := fun _ h => by cases h

theorem NP.only {α : Type} {o : Outcome α} (h : NP o) {P : String → Prop} : ∀ s, o = .panic s → P s :=
  fun s e => absurd e (h s)

theorem bindR_only {α β : Type} {P : String → Prop} {x : R α} {f : α → Mach → R β}
    (hx : ∀ s, x.1 = .panic s → P s) (hf : ∀ a m s, (f a m).1 = .panic s → P s) :
    ∀ s, (bindR x f).1 = .panic s → P s := by
  rcases R.cases x with ⟨a, m', h⟩ | ⟨e, m', h⟩ | ⟨p, m', h⟩ <;> subst h
  · exact hf a m'
  · exact (NP_err e).only
  · intro s h; cases h; exact hx p rfl

theorem NP.bind {α β : Type} {x : R α} {f : α → Mach → R β} (hx : NP x.1) (hf : ∀ a m, NP (f a m).1) :
    NP (bindR x f).1 :=
  bindR_only (P := fun _ => False) hx hf

theorem pushData_np (m : Mach) (c : Cell) : NP (m.pushData c).1 := by
  unfold pushData; intro s; split <;> (try split) <;> simp

theorem popData_np (m : Mach) : NP m.popData.1 := by
  unfold popData; intro s; split <;> (try split) <;> simp

theorem topData_np (m : Mach) : NP m.topData.1 := by
  unfold topData; intro s; split <;> (try split) <;> simp

theorem swapData_np (m : Mach) : NP m.swapData.1 := by
  unfold swapData; intro s; split <;> (try split) <;> simp

theorem rotData_np (m : Mach) : NP m.rotData.1 := by
  unfold rotData; intro s; split <;> (try split) <;> simp

theorem overData_np (m : Mach) : NP m.overData.1 := by
  unfold overData; intro s
  split
  · split
    · exact pushData_np _ _ s
    · simp
  · simp

theorem popReturn_np (m : Mach) : NP m.popReturn.1 := by
  unfold popReturn; intro s; split <;> (try split) <;> simp

theorem topFrame_np (m : Mach) : NP m.topFrame := by
  unfold topFrame; intro s; split <;> (try split) <;> simp

theorem popLoop_np (m : Mach) : NP m.popLoop.1 := by
  unfold popLoop; intro s; split <;> (try split) <;> simp

theorem loopNext_np (m : Mach) : NP m.loopNext.1 := by
  unfold loopNext; intro s; split <;> (try split) <;> simp

theorem cellRef_np (m : Mach) (i : Nat) : NP (m.cellRef i) := by
  unfold cellRef; intro s; split <;> (try split) <;> simp

theorem swapCellRef_np (m : Mach) (i : Nat) (v : Cell) : NP (m.swapCellRef i v).1 := by
  unfold swapCellRef; intro s; split <;> (try split) <;> simp

theorem allocHeap_np (m : Mach) (v : Cell) : NP (m.allocHeap v).1 := by
  unfold allocHeap; intro s; split <;> (try split) <;> (try split) <;> simp

theorem setLoopItems_np (m : Mach) (c : Cell) : NP (m.setLoopItems c).1 := by
  unfold setLoopItems; intro s; split <;> (try split) <;> simp

theorem toBool_np (c : Cell) : NP c.toBool := by
  unfold Cell.toBool; intro s; split <;> simp

theorem condTrue_np (c : Cell) : NP c.condTrue := by
  unfold Cell.condTrue; intro s; split
  · simp
  · exact toBool_np c s

theorem toIsize_np (c : Cell) : NP c.toIsize := by
  unfold Cell.toIsize; intro s; split <;> (try split) <;> simp

theorem toMap_np (c : Cell) : NP c.toMap := by unfold Cell.toMap; intro s; split <;> simp
theorem toVec_np (c : Cell) : NP c.toVec := by unfold Cell.toVec; intro s; split <;> simp
theorem toStr_np (c : Cell) : NP c.toStr := by unfold Cell.toStr; intro s; split <;> simp
theorem toBitstr_np (c : Cell) : NP c.toBitstr := by unfold Cell.toBitstr; intro s; split <;> simp
theorem toUsize_np (c : Cell) : NP c.toUsize := by
  unfold Cell.toUsize; intro s; split <;> (try split) <;> (try split) <;> simp
theorem toXint_np (c : Cell) : NP c.toXint := by
  unfold Cell.toXint; intro s; split <;> (try split) <;> simp
theorem toReal_np (c : Cell) : NP c.toReal := by
  unfold Cell.toReal; intro s; split <;> (try split) <;> simp

theorem dupData_np (m : Mach) : NP m.dupData.1 := by
  rw [dupData_eq]; exact NP.bind (topData_np m) fun c m' => pushData_np m' c

theorem doInit_np (m : Mach) : NP m.doInit.1 := by
  rw [doInit_eq]
  exact NP.bind (popData_np m) fun a m1 => NP.bind (popData_np m1) fun b _ =>
    NP.bind (toIsize_np a) fun _ _ => NP.bind (toIsize_np b) fun _ _ => NP_ok _

inductive PanicOnly (P : String → Prop) : Prog → Prop
  | done : PanicOnly P .done
  | fail (e : Xerr) : PanicOnly P (.fail e)
  | panic (site : String) : P site → PanicOnly P (.panic site)
  | pop (k : Cell → Prog) : (∀ c, PanicOnly P (k c)) → PanicOnly P (.pop k)
  | push (c : Cell) (k : Prog) : PanicOnly P k → PanicOnly P (.push c k)
  | top (k : Cell → Prog) : (∀ c, PanicOnly P (k c)) → PanicOnly P (.top k)
  | dup (k : Prog) : PanicOnly P k → PanicOnly P (.dup k)
  | swap (k : Prog) : PanicOnly P k → PanicOnly P (.swap k)
  | rot (k : Prog) : PanicOnly P k → PanicOnly P (.rot k)
  | over (k : Prog) : PanicOnly P k → PanicOnly P (.over k)
  | depth (k : Nat → Prog) : (∀ n, PanicOnly P (k n)) → PanicOnly P (.depth k)
  | rawLen (k : Nat → Prog) : (∀ n, PanicOnly P (k n)) → PanicOnly P (.rawLen k)
  | rawFrom (ptr : Nat) (k : List Cell → Prog) : (∀ l, PanicOnly P (k l)) → PanicOnly P (.rawFrom ptr k)
  | getVar (idx : Nat) (k : Cell → Prog) : (∀ c, PanicOnly P (k c)) → PanicOnly P (.getVar idx k)
  | setVar (idx : Nat) (c : Cell) (k : Prog) : PanicOnly P k → PanicOnly P (.setVar idx c k)
  | print (s : List Char) (k : Prog) : PanicOnly P k → PanicOnly P (.print s k)
  | pushSpecial (ptr : Nat) (k : Prog) : PanicOnly P k → PanicOnly P (.pushSpecial ptr k)
  | popSpecial (k : Option Nat → Prog) : (∀ r, PanicOnly P (k r)) → PanicOnly P (.popSpecial k)
  | loopAt (n : Nat) (k : Option Loop → Prog) : (∀ r, PanicOnly P (k r)) → PanicOnly P (.loopAt n k)
  | setLoopItems (c : Cell) (k : Prog) : PanicOnly P k → PanicOnly P (.setLoopItems c k)
  | stop (k : Prog) : PanicOnly P k → PanicOnly P (.stop k)

abbrev PanicFree : Prog → Prop := PanicOnly fun _ => False

theorem runProg_only (P : String → Prop) (p : Prog) (hp : PanicOnly P p) :
    ∀ (m : Mach) (s : String), (runProg p m).1 = .panic s → P s := by
  induction hp with
  | done => intro m; exact (NP_ok _).only
  | fail e => intro m; exact (NP_err e).only
  | panic site hs => intro m s h; cases h; exact hs
  | pop k _ ih => intro m; rw [runProg_pop]; exact bindR_only (popData_np m).only fun c m' => ih c m'
  | push c k _ ih => intro m; rw [runProg_push]; exact bindR_only (pushData_np m c).only fun _ m' => ih m'
  | top k _ ih => intro m; rw [runProg_top]; exact bindR_only (topData_np m).only fun c m' => ih c m'
  | dup k _ ih => intro m; rw [runProg_dup]; exact bindR_only (dupData_np m).only fun _ m' => ih m'
  | swap k _ ih => intro m; rw [runProg_swap]; exact bindR_only (swapData_np m).only fun _ m' => ih m'
  | rot k _ ih => intro m; rw [runProg_rot]; exact bindR_only (rotData_np m).only fun _ m' => ih m'
  | over k _ ih => intro m; rw [runProg_over]; exact bindR_only (overData_np m).only fun _ m' => ih m'
  | depth k _ ih | rawLen k _ ih | rawFrom _ k _ ih | loopAt _ k _ ih => intro m; rw [runProg]; exact ih _ m
  | getVar idx k _ ih => intro m; rw [runProg_getVar]; exact bindR_only (cellRef_np m idx).only fun c m' => ih c m'
  | setVar idx c k _ ih =>
    intro m; rw [runProg_setVar]; exact bindR_only (swapCellRef_np m idx c).only fun _ m' => ih m'
  | print t k _ ih | pushSpecial _ k _ ih | stop k _ ih => intro m; rw [runProg]; exact ih _
  | popSpecial k _ ih => intro m; rw [runProg_popSpecial]; exact ih _ _
  | setLoopItems c k _ ih =>
    intro m; rw [runProg_setLoopItems]; exact bindR_only (setLoopItems_np m c).only fun _ m' => ih m'

@[simp] theorem dupData_ne (m m' : Mach) (s : String) : (m.dupData = (Outcome.panic s, m')) = False :=
  eq_false fun h => dupData_np m s (congrArg Prod.fst h)
@[simp] theorem swapData_ne (m m' : Mach) (s : String) : (m.swapData = (Outcome.panic s, m')) = False :=
  eq_false fun h => swapData_np m s (congrArg Prod.fst h)
@[simp] theorem rotData_ne (m m' : Mach) (s : String) : (m.rotData = (Outcome.panic s, m')) = False :=
  eq_false fun h => rotData_np m s (congrArg Prod.fst h)
@[simp] theorem overData_ne (m m' : Mach) (s : String) : (m.overData = (Outcome.panic s, m')) = False :=
  eq_false fun h => overData_np m s (congrArg Prod.fst h)
@[simp] theorem setLoopItems_ne (m m' : Mach) (c : Cell) (s : String) : (m.setLoopItems c = (Outcome.panic s, m')) = False :=
  eq_false fun h => setLoopItems_np m c s (congrArg Prod.fst h)

/-- `s` is a panic the word table `np` answers for: the marker of a name it lacks, or what the program of one of its
    words panics with on some machine -/
def Uncovered (np : String → Option Prog) (s : String) : Prop :=
  ∃ name, (np name = none ∧ s = s!"model: native word {name} is outside the model") ∨
    ∃ p m0, np name = some p ∧ (runProg p m0).1 = .panic s

/-- `Resolve` is excluded: `step` never executes it -/
theorem execBody_only (np : String → Option Prog) (m : Mach) (ip : Nat) (op : Op) (hop : ∀ n, op ≠ .resolve n) :
    ∀ s, (execBody np m ip op).1 = .panic s → Uncovered np s := by
  have pushNext : ∀ (m : Mach) (c : Cell), NP (bindR (m.pushData c) fun _ m => (.ok Dest.next, m)).1 :=
    fun m c => NP.bind (pushData_np m c) fun _ _ => NP_ok _
  cases op <;> dsimp only [execBody]
  case resolve n => exact absurd rfl (hop n)
  case native name =>
    split
    · rename_i p hp
      exact bindR_only (fun s h => ⟨name, .inr ⟨p, m, hp, h⟩⟩) fun _ _ => (NP_ok _).only
    · rename_i hn
      intro s h; cases h; exact ⟨name, .inl ⟨hn, rfl⟩⟩
  all_goals refine NP.only ?_
  case nop | jump | call => exact NP_ok _
  case jumpIf | jumpIfNot =>
    exact NP.bind (popData_np m) fun c _ => NP.bind (condTrue_np c) fun _ _ => NP_ok _
  case caseOf =>
    refine NP.bind (popData_np m) fun _ m1 => NP.bind (topData_np m1) fun _ m2 => ?_
    split
    · exact NP.bind (popData_np m2) fun _ _ => NP_ok _
    · exact NP_ok _
  case ret => exact NP.bind (popReturn_np m) fun _ _ => NP_ok _
  case loadStr | loadF64 | loadI64 | loadNil | loadCell => exact pushNext m _
  case load idx => exact NP.bind (cellRef_np m idx) fun c m1 => pushNext m1 c
  case store idx =>
    exact NP.bind (popData_np m) fun v m1 => NP.bind (swapCellRef_np m1 idx v) fun _ _ => NP_ok _
  case initLocal idx =>
    refine NP.bind (popData_np m) fun v m1 => NP.bind ?_ fun _ _ => NP_ok _
    unfold initLocalTop; split <;> (try split) <;> first | exact NP_ok _ | exact NP_err _
  case loadLocal =>
    refine NP.bind (topFrame_np m) fun _ m1 => ?_
    split
    · exact pushNext m1 _
    · exact NP_err _
  case doOp =>
    refine NP.bind (doInit_np m) fun _ _ => ?_
    split <;> exact NP_ok _
  case breakOp => exact NP.bind (popLoop_np m) fun _ _ => NP_ok _
  case loopOp =>
    refine NP.bind (loopNext_np m) fun _ m1 => ?_
    split
    · exact NP_ok _
    · exact NP.bind (popLoop_np m1) fun _ _ => NP_ok _

theorem exec_only (np : String → Option Prog) (m : Mach) (ip : Nat) (op : Op) (hop : ∀ n, op ≠ .resolve n) :
    ∀ s, (exec np m ip op).1 = .panic s → Uncovered np s := by
  rw [exec_eq]; exact bindR_only (execBody_only np m ip op hop) fun _ _ => (NP_ok _).only

theorem resolveOp_not_resolve (m : Mach) (name n : String) : m.resolveOp name ≠ .ok (.resolve n) := by
  unfold resolveOp
  split
  · simp
  · rename_i c _
    unfold loadValueOp
    split <;> (try split) <;> simp
  · simp
  · simp
  · simp

theorem resolveOp_np (m : Mach) (name : String) : NP (m.resolveOp name) := by
  unfold resolveOp; intro s; split <;> simp

theorem fetch_cases (m : Mach) (hrun : m.isRunning = true) :
    (∃ e m1, m.fetch = (.err e, m1)) ∨ ∃ op m1, m.fetch = (.ok op, m1) ∧ ∀ n, op ≠ .resolve n := by
  have hlt : m.ctx.ip < m.code.length := by simpa [isRunning] using hrun
  unfold fetch
  rcases meterIncrease_cases m with ⟨e, h1⟩ | ⟨h1, -⟩ <;> simp only [h1, bindR_ok, bindR_err]
  · exact .inl ⟨e, m, rfl⟩
  split
  · rename_i hnone
    rw [List.getElem?_eq_none_iff] at hnone
    exact absurd hlt (Nat.not_lt.mpr hnone)
  · rename_i name _
    cases hr : ({ m with meter := m.meter + 1 } : Mach).resolveOp name with
    | err e => exact .inl ⟨e, _, rfl⟩
    | panic p => exact absurd hr (resolveOp_np _ _ p)
    | ok op =>
      rcases meterIncrease_cases (({ m with meter := m.meter + 1 } : Mach).patchCode m.ctx.ip op) with
        ⟨e, h2⟩ | ⟨h2, -⟩ <;> simp only [h2, bindR_ok, bindR_err]
      · exact .inl ⟨e, _, rfl⟩
      · exact .inr ⟨op, _, rfl, fun n hn => resolveOp_not_resolve _ name n (hn ▸ hr)⟩
  · rename_i op hnr _
    exact .inr ⟨op, _, rfl, hnr⟩

theorem step_panic (np : String → Option Prog) (m : Mach) (s : String) (m' : Mach)
    (hrun : m.isRunning = true) (h : step np m = (.panic s, m')) : Uncovered np s := by
  rw [step_eq] at h
  rcases fetch_cases m hrun with ⟨e, m1, hf⟩ | ⟨op, m1, hf, hop⟩ <;> rw [hf] at h
  · cases h
  · exact exec_only np m1 _ op hop s (congrArg Prod.fst h)

theorem next_panic (np : String → Option Prog) (m : Mach) (s : String) (m' : Mach)
    (h : next np m = (.panic s, m')) : Uncovered np s := by
  unfold next at h
  split at h
  · rename_i hr; exact step_panic np m s m' hr h
  · cases h

theorem run_panic (np : String → Option Prog) (fuel : Nat) (m : Mach) (s : String) (m' : Mach)
    (h : run np fuel m = some (.panic s, m')) : Uncovered np s :=
  run_ind (P := fun _ r => ∀ s m', r = (.panic s, m') → Uncovered np s) (fun _ _ _ _ h => by cases h)
    (fun m hr _ s m' h => step_panic np m s m' hr h) (fun _ _ _ _ _ ih => ih) fuel m _ h s m' rfl

/-- a `List.lookup` table such as `nativeProg` answers only its own names and so does not satisfy `hall`: for it the
    statement to use is `run_panic_only` -/
theorem run_np (np : String → Option Prog) (hall : ∀ name, ∃ p, np name = some p ∧ PanicFree p)
    (fuel : Nat) (m : Mach) (s : String) (m' : Mach) : run np fuel m ≠ some (.panic s, m') := by
  intro h
  obtain ⟨name, ⟨hn, _⟩ | ⟨p, m0, hp, hr⟩⟩ := run_panic np fuel m s m' h
  · obtain ⟨p, hp, _⟩ := hall name; rw [hp] at hn; cases hn
  · obtain ⟨p', hp', hf⟩ := hall name
    rw [hp] at hp'; cases hp'
    exact runProg_only _ p hf m0 s hr

theorem run_panic_only (np : String → Option Prog) (P : String → Prop)
    (hall : ∀ name p, np name = some p → PanicOnly P p)
    (fuel : Nat) (m : Mach) (s : String) (m' : Mach) (h : run np fuel m = some (.panic s, m')) :
    P s ∨ ∃ name, np name = none ∧ s = s!"model: native word {name} is outside the model" := by
  obtain ⟨name, ⟨hn, hs⟩ | ⟨p, m0, hp, hr⟩⟩ := run_panic np fuel m s m' h
  · exact Or.inr ⟨name, hn, hs⟩
  · exact Or.inl (runProg_only P p (hall name p hp) m0 s hr)

end Xeh.Mach
