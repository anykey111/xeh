/-
The debug map of a session stays parallel to its code (same length) through every step of the token loop — compiling,
running meta blocks, closing them (both are truncated to the same mark, the results are re-emitted one entry each) —
as long as the loop goes on (`ok` answers).  Needed where a meta block is opened in the middle of a source: the state at
the `#(` is again a state a source can be read in (`Idle`).
-/
import XehModel.Proofs.SessionLoop
import XehModel.Proofs.CompileAlign
import XehModel.Proofs.VMBound

namespace Xeh.Session
open Xeh Xeh.Mach Xeh.Compile Xeh.Session.Sess

def AL (s : Sess) : Prop := s.dmap.length = s.m.code.length

def ALR : SRes → Prop
  | .ok s => AL s
  | _ => True

theorem alr_iff (r : SRes) : ALR r ↔ r.All AL (fun _ => True) (fun _ => True) := by
  cases r <;> exact Iff.rfl

theorem al_emit {s : Sess} (h : AL s) (op : Op) : AL (s.emit op) := by
  simp only [AL, Sess.emit, List.length_append, List.length_cons, List.length_nil] at h ⊢
  omega

theorem al_runS {s : Sess} (h : AL s) (fuel : Nat) : (s.runS fuel).All AL (fun _ => True) (fun _ => True) :=
  runS_all s fuel (fun m' hr => by
      show s.dmap.length = m'.code.length
      rw [(run_bnd nativeProg fuel s.m _ hr).2.2.2.2]; exact h)
    (fun _ _ _ => trivial) (fun _ _ _ _ => trivial)

theorem al_act {s : Sess} (h : AL s) (fuel : Nat) (k : Kind) : (act fuel s k).All AL (fun _ => True) (fun _ => True) := by
  have ofC : ∀ r : CRes CState, (∀ c, r = .ok c → Aligned c) → (s.ofC r).All AL (fun _ => True) (fun _ => True) :=
    fun r hr => ofC_all s r hr (fun _ _ _ => trivial)
  have hc : Aligned s.toC := h
  cases k with
  | emit op => exact al_emit h op
  | openMeta => exact h
  | closeMeta =>
    refine nestedEnd_all s fuel trivial (fun _ _ => ?_)
    refine contextClose_all (Q := AL) s fuel trivial (fun _ => h) (fun s1 h1 => al_runS h1 fuel) (fun s1 prev h1 => ?_)
      (fun _ _ h1 => h1)
    obtain ⟨k, hk, _, _, hcode, hdm⟩ := closed_ds s1 prev
    simp only [AL, hcode, hdm, List.length_append, List.length_take, List.length_replicate, List.length_map] at h1 ⊢
    rw [h1, Nat.min_eq_left (Nat.le_trans hk (Nat.sub_le _ _))]
  | const name =>
    refine constDef_all s name trivial (fun _ => trivial) (fun _ _ _ => trivial) (fun _ d u => ?_)
    show s.dmap.length = s.m.popData.2.code.length
    rw [(popData_bnd s.m).2.2.2.2]; exact h
  | noName => trivial
  | late _ | named _ _ | imm _ | word _ => exact ofC _ (fun c e => cact_aligned _ c _ hc e)

theorem al_metaRun {s : Sess} (h : AL s) (fuel : Nat) : (s.metaRun fuel).All AL (fun _ => True) (fun _ => True) :=
  metaRun_all s fuel h (fun _ => al_runS h fuel)

theorem al_tokens (fuel depth : Nat) (toks : List Tok) : ∀ (idx : Nat) (s : Sess), AL s → ALR (tokens fuel depth toks idx s) :=
  fun idx s h => (alr_iff _).mpr (tokens_all fuel depth (fun k _ h => al_act h fuel k) (fun _ h => al_metaRun h fuel)
    (fun _ _ h => h) (fun _ _ => trivial) toks idx s h)

end Xeh.Session
