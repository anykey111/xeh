/-
The flow-stack compiler never reads the debug map or the last-token marker: it appends to the one and copies the other
into errors.  Two compiler states that differ only there (`CD`, Proofs/CompileWalk.lean) get the same treatment from
every compiling word: `CD` itself survives every move.
-/
import XehModel.Proofs.CompileWalk

namespace Xeh.Compile
open Xeh Xeh.Compile.CState

def CRD : CRes CState → CRes CState → Prop
  | .ok c, .ok c' => CD c c'
  | .err e c, .err e' c' => e.err = e'.err ∧ CD c c'
  | .unsupported u, .unsupported u' => u = u'
  | _, _ => False

theorem cd_mk {code : List Op} {d d' : List Nat} {fl : List Flow} {dict : List (String × Entry)} {hl : Nat} {lim : Option Nat}
    {hid l l' : Nat} {im : Bool} : CD ⟨code, d, fl, dict, hl, lim, hid, l, im⟩ ⟨code, d', fl, dict, hl, lim, hid, l', im⟩ :=
  rfl

theorem CD.fields {a b : CState} (h : CD a b) : a.code = b.code ∧ a.flows = b.flows ∧ a.dict = b.dict ∧ a.heapLen = b.heapLen ∧
    a.heapLimit = b.heapLimit ∧ a.hiddenFlows = b.hiddenFlows ∧ a.inMeta = b.inMeta := by
  obtain ⟨d, l, rfl⟩ := h.relab
  exact ⟨rfl, rfl, rfl, rfl, rfl, rfl, rfl⟩

theorem cd_heap {a b : CState} (h : CD a b) (n : Nat) (d : List (String × Entry)) :
    CD { a with heapLen := n, dict := d } { b with heapLen := n, dict := d } := by
  obtain ⟨d, l, rfl⟩ := h.relab
  rfl

theorem cd_keeps : Keeps2 0 (fun _ _ => True) CD where
  cd h := h
  mark _ := Nat.zero_le _
  emit _ _ h := by obtain ⟨d, l, rfl⟩ := h.relab; rfl
  flows _ h := by obtain ⟨d, l, rfl⟩ := h.relab; rfl
  patch _ _ h _ := by obtain ⟨d, l, rfl⟩ := h.relab; rfl
  dict _ h := by obtain ⟨d, l, rfl⟩ := h.relab; rfl
  alloc h _ := by obtain ⟨d, l, rfl⟩ := h.relab; rfl
  tok _ h := by obtain ⟨d, l, rfl⟩ := h.relab; rfl

theorem Kept2.crd {r r' : CRes CState} (h : Kept2 0 (fun _ _ => True) CD r r') : CRD r r' := by
  cases r <;> cases r' <;> first | exact h.elim | skip
  · exact h.r
  · exact ⟨h.1, h.2.1⟩
  · exact h

theorem cd_inv {a b : CState} (h : CD a b) : Inv2 0 (fun _ _ => True) CD a b := ⟨h, trivial, orgs_zero _⟩

/-- case analysis on the popped flow of two related states: afterwards either both stacks were empty, or the same flow
    `fa` was popped leaving the states `xa`, `xb`, related by the second half of `hp` -/
local macro "pop_cases " h:term " , " a:term " , " b:term " with " hp:ident fa:ident xa:ident xb:ident : tactic => `(tactic|
  (have $hp:ident := cd_popFlow $h
   revert $hp:ident
   generalize Compile.CState.popFlow $a = pa
   generalize Compile.CState.popFlow $b = pb
   intro $hp:ident
   rcases pa with _ | ⟨$fa:ident, $xa:ident⟩ <;> rcases pb with _ | ⟨fb, $xb:ident⟩ <;> first | exact ($hp).elim | skip))

theorem cd_cact (k : Kind) (a b : CState) (h : CD a b) : CRD (cact a k) (cact b k) :=
  (cact_keeps2 cd_keeps k a b (fun _ _ => trivial) (cd_inv h)).crd

end Xeh.Compile
