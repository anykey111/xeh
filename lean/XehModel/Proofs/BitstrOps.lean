/- The value-producing bit-string operations: left-aligned packing (`detach`), byte export, hex export, equality. -/
import XehModel.Proofs.BitstrHeap

namespace Xeh.Bitstr
open Xeh Xeh.Bits

/-- what `detach` writes: the groups, left-aligned -/
theorem pack_iter8 (l : List Bool) : ((Bits.iter8 l).map fun (val, n) => (val <<< (8 - n)) % 256) = pack l := by
  unfold Bits.iter8 pack
  rw [List.map_map]
  exact List.map_congr_left fun g hg => Nat.mod_eq_of_lt (group_lt g (chunks8_le hg))

theorem iter8_inj (l₁ l₂ : List Bool) (hl : l₁.length = l₂.length) (h : Bits.iter8 l₁ = Bits.iter8 l₂) : l₁ = l₂ := by
  rw [← slice_full l₁, ← slice_pack l₁ 0 _ (Nat.le_refl _), ← pack_iter8, h, hl, pack_iter8,
    slice_pack l₂ 0 _ (Nat.le_refl _), slice_full]

theorem ofBytes_take (bs : List Nat) (m : Nat) : (ofBytes bs).take (8 * m) = ofBytes (bs.take m) := by
  induction bs generalizing m with
  | nil => simp [ofBytes]
  | cons b r ih =>
    cases m with
    | zero => simp [ofBytes]
    | succ m =>
      rw [List.take_succ_cons, ofBytes_cons, ofBytes_cons, List.take_append, bitsOfNat_length,
        List.take_of_length_le (by simp; omega)]
      have : 8 * (m + 1) - 8 = 8 * m := by omega
      rw [this, ih]

theorem aligned_bits (bs : List Nat) (i j : Nat) :
    slice (ofBytes bs) (8 * i) (8 * j) = ofBytes ((bs.drop i).take (j - i)) := by
  unfold slice
  have : 8 * j - 8 * i = 8 * (j - i) := by omega
  rw [this, ofBytes_drop, ofBytes_take]

theorem View.slice_spec (v : View) (h : v.WF) (ha : v.start % 8 = 0) (hl : (v.end_ - v.start) % 8 = 0) :
    ∃ bs, v.slice = .ok (some bs) ∧ v.bits = ofBytes bs ∧ (∀ b ∈ bs, b < 256) := by
  have hubi := ubi_le v.end_ v.bytes.length h.bound
  have hle := h.le
  have he8 : v.end_ % 8 = 0 := by omega
  have he : upperBoundIndex v.end_ = v.end_ / 8 := by rw [upperBoundIndex_eq]; omega
  refine ⟨(v.bytes.drop (v.start / 8)).take (v.end_ / 8 - v.start / 8), ?_, ?_, ?_⟩
  · unfold View.slice View.isBytestr View.bytesRange sliceBytes
    simp only [ha, hl, beq_self_eq_true, Bool.and_self, if_true]
    rw [if_pos ⟨by rw [he]; exact Nat.div_le_div_right hle, hubi⟩, he]
  · unfold View.bits allBits
    conv => lhs; rw [← Nat.mul_div_cancel' (Nat.dvd_of_mod_eq_zero ha), ← Nat.mul_div_cancel' (Nat.dvd_of_mod_eq_zero he8)]
    exact aligned_bits _ _ _
  · intro b hb
    exact h.bytes b (List.mem_of_mem_drop (List.mem_of_mem_take hb))

theorem View.slice_none (v : View) (hn : ¬(v.start % 8 = 0 ∧ (v.end_ - v.start) % 8 = 0)) :
    v.slice = .ok none := by
  unfold View.slice View.isBytestr
  rw [if_neg (by simpa using hn)]

theorem View.toBytesWithPadding_spec (v : View) (h : v.WF) :
    v.toBytesWithPadding = .ok (toBytesPad v.bits) := by
  unfold View.toBytesWithPadding
  rw [View.iter8_spec v h]
  simp [toBytesPad, Bits.iter8, List.map_map]

theorem View.toHexString_spec (v : View) (h : v.WF) : v.toHexString = .ok (toHex v.bits) := by
  unfold View.toHexString
  rw [View.iter8_spec v h]
  have h15 : ∀ val : Nat, val &&& 15 = val % 16 := fun val => Nat.and_two_pow_sub_one_eq_mod val 4
  have h4 : ∀ val : Nat, val >>> 4 = val / 16 := fun val => Nat.shiftRight_eq_div_pow val 4
  simp only [toHex, h15, h4]

theorem View.bits_length (v : View) (h : v.WF) : v.bits.length = v.end_ - v.start :=
  slice_allBits_length _ _ _ h.bound

theorem View.slice_eq (v : View) (h : v.WF) :
    v.slice = .ok (if v.start % 8 = 0 ∧ (v.end_ - v.start) % 8 = 0 then some (toBytesPad v.bits) else none) := by
  by_cases hc : v.start % 8 = 0 ∧ (v.end_ - v.start) % 8 = 0
  · obtain ⟨bs, h1, h2, h3⟩ := View.slice_spec v h hc.1 hc.2
    rw [if_pos hc, h1, h2, toBytesPad_ofBytes bs h3]
  · rw [if_neg hc, View.slice_none v hc]

/-- `to_bytes` and `bytestr` go different ways through `slice()` and `to_bytes_with_padding()` and agree -/
theorem View.toBytes_bytestr_spec (v : View) (h : v.WF) :
    v.toBytes = .ok (Bits.toBytes v.bits) ∧ v.bytestr = .ok (Bits.toBytes v.bits) := by
  unfold View.toBytes View.bytestr Bits.toBytes View.isBytestr
  rw [View.bits_length v h, View.slice_eq v h, View.toBytesWithPadding_spec v h]
  by_cases hl : (v.end_ - v.start) % 8 = 0 <;> by_cases ha : v.start % 8 = 0 <;> simp [hl, ha]

theorem View.toBytes_spec (v : View) (h : v.WF) : v.toBytes = .ok (Bits.toBytes v.bits) :=
  (View.toBytes_bytestr_spec v h).1

theorem View.bytestr_spec (v : View) (h : v.WF) : v.bytestr = .ok (Bits.toBytes v.bits) :=
  (View.toBytes_bytestr_spec v h).2

theorem ofBytes_inj (a b : List Nat) (ha : ∀ x ∈ a, x < 256) (hb : ∀ x ∈ b, x < 256)
    (h : ofBytes a = ofBytes b) : a = b := by
  rw [← toBytesPad_ofBytes a ha, ← toBytesPad_ofBytes b hb, h]

theorem beq_of_iff {α β : Type} [BEq α] [LawfulBEq α] [DecidableEq β] {x y : α} {p q : β} (h : x = y ↔ p = q) :
    (x == y) = decide (p = q) := by
  rw [Bool.eq_iff_iff, beq_iff_eq, decide_eq_true_iff, h]

theorem View.eqWith_spec (a b : View) (ha : a.WF) (hb : b.WF) :
    a.eqWith b = .ok (decide (a.bits = b.bits)) := by
  unfold View.eqWith
  have hla := View.bits_length a ha
  have hlb := View.bits_length b hb
  by_cases hlen : a.len ≠ b.len
  · rw [if_pos hlen]
    have : a.bits ≠ b.bits := by
      intro he; apply hlen; unfold View.len; rw [← hla, ← hlb, he]
    simp [this]
  · rw [if_neg hlen]
    have hlen' : a.end_ - a.start = b.end_ - b.start := by
      simp [View.len] at hlen; exact hlen
    by_cases hf : (a.isU8Slice && b.isU8Slice) = true
    · rw [if_pos hf]
      simp only [View.isU8Slice, View.isBytestr, Bool.and_eq_true, beq_iff_eq] at hf
      obtain ⟨x, hx1, hx2, hx3⟩ := View.slice_spec a ha hf.1.1 hf.1.2
      obtain ⟨y, hy1, hy2, hy3⟩ := View.slice_spec b hb hf.2.1 hf.2.2
      rw [hx1, hy1, hx2, hy2]
      exact congrArg Outcome.ok (beq_of_iff (p := ofBytes x) (q := ofBytes y)
        ⟨fun e => by rw [Option.some.inj e], fun e => by rw [ofBytes_inj x y hx3 hy3 e]⟩)
    · rw [if_neg hf, View.iter8_spec a ha, View.iter8_spec b hb]
      exact congrArg Outcome.ok (beq_of_iff (p := a.bits) (q := b.bits)
        ⟨iter8_inj _ _ (by rw [hla, hlb, hlen']), fun e => by rw [e]⟩)

/-- `detach` as one equation: the receiver as it is, or a fresh packed buffer while the receiver is dropped -/
theorem detach_eq (h : Heap) (s : Handle) (wf : WF h s) :
    detach h s = .ok (if (h.buf s.buf).rc == 1 && s.start == 0 then (h, s)
      else (drop (h.alloc (pack (bits h s)) false).1 s, ⟨0, (bits h s).length, h.next⟩)) := by
  unfold detach
  split
  · rfl
  · have hbl := bits_length h s wf
    rw [hbl]
    split
    · rename_i hlen
      rw [List.eq_nil_of_length_eq_zero (hbl.trans (beq_iff_eq.mp hlen)), beq_iff_eq.mp hlen, pack_nil]
      rfl
    · rw [View.iter8_spec _ wf.view]
      simp only
      rw [pack_iter8]
      rfl

theorem detach_spec (h : Heap) (s : Handle) (wf : WF h s) :
    ∃ h' s', detach h s = .ok (h', s') ∧ WF h' s' ∧ bits h' s' = bits h s ∧
      (∀ t : Handle, t.buf < h.next → bits h' t = bits h t) := by
  rw [detach_eq h s wf]
  split
  · exact ⟨h, s, rfl, wf, rfl, fun _ _ => rfl⟩
  · obtain ⟨w, b⟩ := alloc_pack h (bits h s)
    refine ⟨_, _, rfl, WF_decRc_other _ _ _ w (Nat.ne_of_gt wf.alloc), by rw [drop, bits_decRc]; exact b, fun t ht => ?_⟩
    rw [drop, bits_decRc]
    unfold bits Heap.view
    rw [alloc_buf_ne _ _ _ (Nat.ne_of_lt ht)]

end Xeh.Bitstr
