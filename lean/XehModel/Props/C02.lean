/-
C02 — reverse stepping exactly undoes forward stepping, and replay reproduces it.

Model: Model/VM.lean (`step` = fetch_and_run, `next`, `rnext`, `undoC` = reverse_changes). The
"complete machine state" of the property — instruction pointer, data stack (visible and hidden
part), call frames with their locals, loop indices, vector-builder marks and every variable — is
`Mach.core`; the reverse log itself is restored as well.

All theorems hold for **every** word table `np` (every native word is an arbitrary program over the
interpreter's primitives, `Prog`), every opcode, every machine satisfying the structural invariant
`WF` (context marks do not exceed the stacks), and every history.

Not carried by `rnext` (and not claimed by the property): the instruction meter, captured stdout and
the in-place patch of a late-bound `Resolve` opcode are not rewound.
-/
import XehModel.Proofs.VMSteps
import XehModel.Proofs.VMSim
import XehModel.Props.C10

namespace Xeh.C02
open Xeh Xeh.Mach

variable (np : String → Option Prog)

/-- a successful step has the shape: (meter / late-binding patch), reversible effects, one `SetIp` -/
theorem step_ok_shape (m m' : Mach) (w : WF m) (h : step np m = (.ok (), m')) :
    ∃ m0 seg mp n, Pre m m0 ∧ Rev m0 mp seg ∧ m' = mp.setIp n := by
  have sh := step_shape np m w
  rw [h] at sh
  cases sh with
  | early _ _ ne _ _ _ => exact absurd rfl ne
  | exec m0 p s =>
    cases s with
    | fail seg mp r e ne => exact absurd rfl ne
    | done seg mp n r e => exact ⟨m0, seg, mp, n, p, r, (Prod.mk.inj e).2⟩

/-- One backward step after one forward step restores the machine and the log. -/
theorem rnext_step (m m' : Mach) (ℓ : List RStep) (w : WF m) (hl : m.log = some ℓ) (hℓ : LogHead ℓ)
    (h : step np m = (.ok (), m')) :
    (rnext m').1 = .ok () ∧ (rnext m').2.core = m.core ∧ (rnext m').2.log = some ℓ := by
  obtain ⟨m0, seg, mp, n, p, r, e⟩ := step_ok_shape np m m' w h
  subst e
  have hl0 : m0.log = some ℓ := by rw [p.log, hl]
  have hlog : (mp.setIp n).log = some (.setIp mp.ctx.ip :: (seg ++ ℓ)) := by
    simp [setIp, logStep, r.log ℓ hl0]
  have hcore : undoC (mp.setIp n).core (.setIp mp.ctx.ip) = (.ok (), mp.core) := by
    simp [undoC, setIp, core, logStep]
  have hseg := undoSeg_app seg ℓ mp.core m0.core r.noSetIp r.undo hℓ
  unfold rnext
  rw [hlog]
  simp only [rnextC, hcore, hseg]
  rw [p.core]
  simp [setCore, core]

/-- the two invariants the statement above needs are re-established by every successful step, so it
    can be iterated -/
theorem step_invariants (m m' : Mach) (ℓ : List RStep) (w : WF m) (hl : m.log = some ℓ)
    (h : step np m = (.ok (), m')) :
    WF m' ∧ ∃ ℓ', m'.log = some ℓ' ∧ LogHead ℓ' := by
  obtain ⟨m0, seg, mp, n, p, r, e⟩ := step_ok_shape np m m' w h
  subst e
  have hl0 : m0.log = some ℓ := by rw [p.log, hl]
  have := r.wf (p.wf w)
  exact ⟨⟨this.ds, this.rs, this.ls, this.ss⟩, .setIp mp.ctx.ip :: (seg ++ ℓ),
    by simp [setIp, logStep, r.log ℓ hl0], by simp [LogHead, isSetIp]⟩

/-- A step that **fails** midway leaves a log whose new entries, undone most-recent-first, restore
    the core the step started from (the partial effects of the failing instruction are exactly what
    was logged; no `SetIp` was logged, the instruction pointer did not move). -/
theorem failed_step_undo (m m' : Mach) (ℓ : List RStep) (e : Xerr) (w : WF m) (hl : m.log = some ℓ)
    (h : step np m = (.err e, m')) :
    ∃ seg, m'.log = some (seg ++ ℓ) ∧ (∀ s ∈ seg, isSetIp s = false) ∧ undoList seg m'.core = .ok m.core := by
  have sh := step_shape np m w
  rw [h] at sh
  cases sh with
  | early hc hlog _ _ _ _ => exact ⟨[], by simpa [hl] using hlog, by simp, by simp [undoList]; exact hc⟩
  | exec m0 p s =>
    cases s with
    | fail seg mp r e' ne =>
      simp only at e'; subst e'
      exact ⟨seg, r.log ℓ (by rw [p.log, hl]), r.noSetIp, by rw [← p.core]; exact r.undo⟩
    | done seg mp n r e' => cases e'

/-- `rnext` reads and writes only the core and the log -/
theorem rnext_congr (a b : Mach) (hc : a.core = b.core) (hl : a.log = b.log) :
    (rnext a).1 = (rnext b).1 ∧ (rnext a).2.core = (rnext b).2.core ∧ (rnext a).2.log = (rnext b).2.log := by
  unfold rnext
  rw [hl, hc]
  cases b.log with
  | none => exact ⟨rfl, hc, hl ▸ rfl⟩
  | some l => exact ⟨rfl, rfl, rfl⟩

theorem rnextN_congr (k : Nat) (a b : Mach) (hc : a.core = b.core) (hl : a.log = b.log) :
    (∀ a', rnextN k a = some a' → ∃ b', rnextN k b = some b' ∧ a'.core = b'.core ∧ a'.log = b'.log) := by
  induction k generalizing a b with
  | zero => intro a' h; cases h; exact ⟨b, rfl, hc, hl⟩
  | succ k ih =>
    intro a' h
    obtain ⟨c1, c2, c3⟩ := rnext_congr a b hc hl
    rw [rnextN] at h ⊢
    split at h
    · rename_i ma ha
      rw [ha] at c1 c2 c3
      rw [show rnext b = (.ok (), (rnext b).2) from Prod.ext c1.symm rfl]
      exact ih ma _ c2 c3 a' h
    · cases h

theorem rnextN_succ (n : Nat) (m : Mach) :
    rnextN (n + 1) m = (match rnextN n m with | some x => rnextN 1 x | none => none) := by
  induction n generalizing m with
  | zero => simp [rnextN]
  | succ n ih =>
    simp only [rnextN]
    cases hr : rnext m with
    | mk o x =>
      cases o with
      | ok u => simpa [rnextN] using ih x
      | err e => simp
      | panic p => simp

/-- **Main theorem.** After any number `n` of forward steps, `k ≤ n` backward steps restore the
    machine (core and log) to exactly what it was `k` steps earlier — for every program, every word
    table, every n and k. -/
theorem rewind (n k : Nat) (hk : k ≤ n) (m mn : Mach) (ℓ : List RStep) (w : WF m)
    (hl : m.log = some ℓ) (hℓ : LogHead ℓ) (hn : stepN np n m = some mn) :
    ∃ mid back, stepN np (n - k) m = some mid ∧ rnextN k mn = some back ∧
      back.core = mid.core ∧ back.log = mid.log := by
  induction n generalizing m ℓ k with
  | zero =>
    have : k = 0 := by omega
    subst this
    simp [stepN] at hn; subst hn
    exact ⟨m, m, rfl, rfl, rfl, rfl⟩
  | succ n ih =>
    simp only [stepN] at hn
    split at hn
    · rename_i m1 hs
      obtain ⟨w1, ℓ1, hl1, hℓ1⟩ := step_invariants np m m1 ℓ w hl hs
      by_cases hkn : k ≤ n
      · obtain ⟨mid, back, h1, h2, h3, h4⟩ := ih k hkn m1 ℓ1 w1 hl1 hℓ1 hn
        refine ⟨mid, back, ?_, h2, h3, h4⟩
        have : n + 1 - k = (n - k) + 1 := by omega
        rw [this]; simp [stepN, hs, h1]
      · have hk' : k = n + 1 := by omega
        subst hk'
        -- rewind n steps back to m1, then one more step back to m
        obtain ⟨mid, back, h1, h2, h3, h4⟩ := ih n (Nat.le_refl n) m1 ℓ1 w1 hl1 hℓ1 hn
        simp [stepN] at h1; subst h1
        obtain ⟨r1, r2, r3⟩ := rnext_step np m m1 ℓ w hl hℓ hs
        have ⟨c1, c2, c3⟩ := rnext_congr back m1 h3 h4
        refine ⟨m, (rnext back).2, by simp [stepN], ?_, by rw [c2, r2], by rw [c3, r3, hl]⟩
        rw [rnextN_succ, h2]
        simp only [rnextN]
        rw [show rnext back = (.ok (), (rnext back).2) from Prod.ext (c1.trans r1) rfl]
    · cases hn

/-- **Replay, general form.** Two machines that agree on everything except the reverse log, the
    instruction meter, captured stdout and the about-to-stop flag execute the same steps: the same
    number of steps succeed and the machines agree again (in particular on the whole core) after
    every one of them. (No instruction limit: with a limit the meter is an input of `step`.) -/
theorem replay (n : Nat) (a b a' : Mach) (w : WF a) (h : normAll a = normAll b) (hl : a.insnLimit = none)
    (hn : stepN np n a = some a') : ∃ b', stepN np n b = some b' ∧ normAll a' = normAll b' := by
  induction n generalizing a b with
  | zero => simp [stepN] at hn; subst hn; exact ⟨b, rfl, h⟩
  | succ n ih =>
    obtain ⟨h1, h2⟩ := NormAll.step_sim np a b h hl
    have hf := step_frame np a w
    rw [stepN] at hn ⊢
    split at hn
    · rename_i ma ha
      rw [ha] at h1 h2 hf
      rw [show step np b = (.ok (), (step np b).2) from Prod.ext h1.symm rfl]
      exact ih ma _ hf.2.2.2.2.2 h2 (hf.1.1.trans hl) hn
    · cases hn

/-- `rnext` changes nothing but the core and the log -/
theorem rnext_static (m : Mach) : normAll ((rnext m).2.setCore m.core) = normAll m := by
  unfold rnext
  split
  · rfl
  · rfl

/-- **Rewind, then replay.** Rewind k of n steps; from the rewound machine, stepping forward again
    goes through machines with exactly the cores of the original execution, for as many steps as the
    original took (and beyond). Hypotheses: no instruction limit, and no late-bound `Resolve` was
    patched between the two points (`hstatic`: outside core, log, meter, stdout and the stop flag — so in the
    code — the two machines agree) — both are exercised without
    these restrictions by the correspondence check. -/
theorem rewind_replay (j : Nat) (mid back x : Mach) (w : WF mid)
    (hcore : back.core = mid.core) (hstatic : normAll (back.setCore mid.core) = normAll mid)
    (hl : mid.insnLimit = none) (hj : stepN np j mid = some x) :
    ∃ y, stepN np j back = some y ∧ y.core = x.core := by
  have hb : normAll mid = normAll back := by
    rw [← hstatic]
    have : back.setCore mid.core = back := by rw [← hcore]; rfl
    rw [this]
  obtain ⟨y, hy, hn⟩ := replay np j mid back x w hb hl hj
  refine ⟨y, hy, ?_⟩
  have key : ∀ p q : Mach, normAll p = normAll q → p.core = q.core := by
    intro p q h
    cases p; cases q
    simp only [normAll, Mach.mk.injEq, true_and] at h
    obtain ⟨h1, h2, h3, h4, h5, h6, h7, h8, h9, h10, h11⟩ := h
    subst_vars
    rfl
  exact (key x y hn).symm

/-! ### where reverse stepping starts: a compiled source leaves nothing of its build in the log -/

open Xeh.Session Xeh.Session.Sess in
/-- **the start of the program is the start of the log's new part.**  Compile a source with recording on — with meta
    blocks that execute while it is read, `const`, results re-emitted as literals: when `compile` returns, the reverse
    log is exactly what it was before (`forget_build_log`, repair fa36941 of /repo).  So the k-th backward step of the
    program undoes the program's k-th last instruction and nothing else, "for every k up to the start": there is no
    build-time entry in front of the first instruction for the last backward step to run into. -/
theorem compile_leaves_the_log_alone (fuel : Nat) (toks : List Compile.Tok) (s s' : Sess) (idle : Idle s)
    (h : s.buildSource fuel .compile toks = .done s') : s'.m.log = s.m.log := by
  obtain ⟨s2, _, hb, _, rfl⟩ := compile_done idle h
  have e0 := hb.ext0
  show (forgetBuildLog s.m s2.m).log = _
  unfold forgetBuildLog
  cases hl : s.m.log with
  | none => simp [e0.nolog hl]
  | some ℓ =>
    obtain ⟨seg, hseg⟩ := e0.log ℓ hl
    simp [hseg]

open Xeh.Session Xeh.Session.Sess in
/-- **a source rejected while a program is paused takes nothing away from what can be stepped back.**  The program has
    been stepped forward and back any number of times (the session is whatever that left: `Idle` asks only for
    well-formed context marks, not for a finished program); a source is submitted and rejected — a typo at the prompt.
    By C10's main theorem the machine is what it was, the reverse log included, so every number `k` of backward steps
    afterwards ends in the core state and log it would have ended in without the rejected source. -/
theorem rejected_source_keeps_the_history (fuel : Nat) (mode : Mode) (toks : List Compile.Tok) (s s' : Sess) (e : Xerr)
    (idle : Idle s) (hmode : mode ≠ .metaEval) (h : s.buildSource fuel mode toks = .rejected e s') :
    s'.m.log = s.m.log ∧ s'.m.core = s.m.core ∧
    ∀ k back, rnextN k s.m = some back → ∃ back', rnextN k s'.m = some back' ∧ back.core = back'.core ∧ back.log = back'.log := by
  have hr := C10.rejected_source_restores fuel mode toks s s' e idle hmode h
  have hlog : s'.m.log = s.m.log := by rw [hr]
  have hcore : s'.m.core = s.m.core := by rw [hr]; rfl
  exact ⟨hlog, hcore, fun k back hk => rnextN_congr k s.m s'.m hcore.symm hlog.symm back hk⟩

open Xeh.Session Xeh.Session.Sess in
/-- **rewinding a compiled program.**  An idle session, recording on, the log empty or ending in a complete step
    (`LogHead`); a source is compiled — whatever it runs while it is read.  Then the main theorem applies to the
    machine `compile` leaves behind: after any `n` forward steps of the program, `k ≤ n` backward steps restore the
    complete machine state (core and log) of `k` steps earlier — down to `k = n`, the state right after `compile`. -/
theorem compiled_program_rewinds (fuel : Nat) (toks : List Compile.Tok) (s s' : Sess) (ℓ : List RStep) (idle : Idle s)
    (hl : s.m.log = some ℓ) (hℓ : LogHead ℓ) (h : s.buildSource fuel .compile toks = .done s')
    (n k : Nat) (hk : k ≤ n) (mn : Mach) (hn : stepN nativeProg n s'.m = some mn) :
    ∃ mid back, stepN nativeProg (n - k) s'.m = some mid ∧ rnextN k mn = some back ∧
      back.core = mid.core ∧ back.log = mid.log := by
  have hlog := compile_leaves_the_log_alone fuel toks s s' idle h
  have hw : WF s'.m := by
    obtain ⟨s2, _, hb, _, rfl⟩ := compile_done idle h
    have e0 := hb.ext0
    exact ⟨Nat.le_trans idle.wf.ds e0.dsLen, Nat.le_trans idle.wf.rs e0.rsLen, Nat.le_trans idle.wf.ls e0.lsLen,
      Nat.le_trans idle.wf.ss e0.ssLen⟩
  exact rewind nativeProg n k hk s'.m mn ℓ hw (by rw [hlog]; exact hl) hℓ hn

/-! ### non-vacuity: a concrete recording machine in the middle of a counted loop with a local -/

def demoCode : List Op :=
  [.call 2, .jump 100, .loadI64 2, .loadI64 0, .doOp 5, .native "I", .initLocal 0, .loadLocal 0, .native "drop", .loopOp (-4), .ret]

def demoNp : String → Option Prog
  | "I" => some (.loopAt 0 fun | some l => .push (.int l.start) .done | none => .fail .loopStackUnderflow)
  | "drop" => some (.pop fun _ => .done)
  | _ => none

def demo0 : Mach := { code := demoCode, log := some [] }

example : WF demo0 := ⟨by decide, by decide, by decide, by decide⟩
example : LogHead ([] : List RStep) := trivial
/-- 11 forward steps succeed from the demo machine (so `rewind` applies with every k ≤ 11); the
    second `InitLocal 0` overwrites the local initialised in the first iteration -/
example : (stepN demoNp 11 demo0).isSome = true := by decide
example : ((stepN demoNp 11 demo0).bind (rnextN 9)).map (·.core) = (stepN demoNp 2 demo0).map (·.core) := by decide

end Xeh.C02
